/-
  Real analysis used by Props/C13.lean for the volume of a perturbed sphere, axisymmetric or not (pure Mathlib, nothing generated):
  * a function on the sphere that satisfies the eigen-equation of the spherical Laplacian with eigenvalue −l(l+1), l ≥ 1,
    and is 2π-periodic in the azimuth has zero mean over the sphere: the azimuthal average is a ZONAL eigenfunction, to which
    `zonal_mean_zero` applies;
  * the volume enclosed by the radial graph r(θ, φ), `(1/3) ∫₀^π (∫₀^2π r³ dφ) sin θ dθ`, of r = R(1 + εu) is the sphere's volume
    at ε = 0 and has the ε-derivative `R³ ∫∫ u sin θ` there; the solid of revolution is the case without φ-dependence.
-/
import DropletsVerif.Lemmas.Fourier
import Mathlib.Analysis.Calculus.ParametricIntervalIntegral
import Mathlib.Topology.Algebra.Module.Cardinality

namespace DV.Fourier
open Real intervalIntegral MeasureTheory Filter

/-- differentiation under the integral sign when the partial derivative is jointly continuous -/
theorem hasDerivAt_paramIntegral (F F' : ℝ → ℝ → ℝ) (a b : ℝ)
    (hF : ∀ x, Continuous (F x)) (hF' : Continuous (Function.uncurry F'))
    (hd : ∀ x t, HasDerivAt (fun x => F x t) (F' x t) x) (x₀ : ℝ) :
    HasDerivAt (fun x => ∫ t in a..b, F x t) (∫ t in a..b, F' x₀ t) x₀ := by
  have hK : IsCompact (Metric.closedBall x₀ 1 ×ˢ Set.uIcc a b) := (isCompact_closedBall x₀ 1).prod isCompact_uIcc
  obtain ⟨M, hM⟩ := hK.exists_bound_of_continuousOn hF'.continuousOn
  have hF'x : Continuous (F' x₀) := hF'.uncurry_left x₀
  have h := intervalIntegral.hasDerivAt_integral_of_dominated_loc_of_deriv_le (μ := volume) (F := F) (F' := F')
    (x₀ := x₀) (a := a) (b := b) (bound := fun _ => M) (s := Metric.closedBall x₀ 1)
    (Metric.closedBall_mem_nhds x₀ one_pos)
    (Eventually.of_forall fun x => (hF x).aestronglyMeasurable)
    ((hF x₀).intervalIntegrable a b)
    hF'x.aestronglyMeasurable
    (Eventually.of_forall fun t ht x hx => hM (x, t) ⟨hx, Set.uIoc_subset_uIcc ht⟩)
    intervalIntegrable_const
    (Eventually.of_forall fun t _ x _ => hd x t)
  exact h.2

theorem eq_zero_of_sin_mul_eq_zero (g : ℝ → ℝ) (hg : Continuous g) (h : ∀ t, sin t * g t = 0) : ∀ t, g t = 0 := by
  have hcount : ({t : ℝ | sin t = 0}).Countable := by
    have : {t : ℝ | sin t = 0} = Set.range (fun n : ℤ => (n : ℝ) * π) := by
      ext t; simp only [Set.mem_ofPred_eq, Set.mem_range, Real.sin_eq_zero_iff]
    rw [this]; exact Set.countable_range _
  have hdense : Dense ({t : ℝ | sin t = 0}ᶜ) := hcount.dense_compl ℝ
  have heq : g = fun _ => 0 := by
    refine Continuous.ext_on hdense hg continuous_const ?_
    intro t ht
    rcases mul_eq_zero.mp (h t) with h0 | h0
    · exact absurd h0 ht
    · exact h0
  intro t; rw [heq]

/-- **A spherical harmonic of degree `l ≥ 1` has zero mean over the sphere** — from the eigen-equation of the spherical Laplacian
(multiplied by `sin² θ`, so nothing is divided by `sin θ`) and periodicity in the azimuth alone.  `Yt`, `Ytt` are the first two
`θ`-derivatives, `Ypp` the `φ`-derivative of a function `Yp` that is 2π-periodic in `φ` (for a harmonic: `Yp = ∂Y/∂φ`). -/
theorem harmonic_mean_zero (Y Yt Ytt Yp Ypp : ℝ → ℝ → ℝ) (l : ℕ) (hl : 1 ≤ l)
    (hYc : ∀ θ, Continuous (Y θ)) (hYtc : Continuous (Function.uncurry Yt)) (hYttc : Continuous (Function.uncurry Ytt))
    (h1 : ∀ θ φ, HasDerivAt (fun θ => Y θ φ) (Yt θ φ) θ)
    (h2 : ∀ θ φ, HasDerivAt (fun θ => Yt θ φ) (Ytt θ φ) θ)
    (h3 : ∀ θ φ, HasDerivAt (fun φ => Yp θ φ) (Ypp θ φ) φ) (hYppc : ∀ θ, Continuous (Ypp θ))
    (hper : ∀ θ, Yp θ (2 * π) = Yp θ 0)
    (heig : ∀ θ φ, sin θ * (sin θ * Ytt θ φ + cos θ * Yt θ φ) + Ypp θ φ = -((l : ℝ) * (l + 1)) * (sin θ ^ 2 * Y θ φ)) :
    ∫ θ in (0 : ℝ)..π, (∫ φ in (0 : ℝ)..(2 * π), Y θ φ) * sin θ = 0 := by
  set A : ℝ → ℝ := fun θ => ∫ φ in (0 : ℝ)..(2 * π), Y θ φ with hA
  set A1 : ℝ → ℝ := fun θ => ∫ φ in (0 : ℝ)..(2 * π), Yt θ φ with hA1
  set A2 : ℝ → ℝ := fun θ => ∫ φ in (0 : ℝ)..(2 * π), Ytt θ φ with hA2
  have hYtc' : ∀ θ, Continuous (Yt θ) := hYtc.uncurry_left
  have hYttc' : ∀ θ, Continuous (Ytt θ) := hYttc.uncurry_left
  have hd1 : ∀ θ, HasDerivAt A (A1 θ) θ := fun θ => hasDerivAt_paramIntegral Y Yt 0 (2 * π) hYc hYtc h1 θ
  have hd2 : ∀ θ, HasDerivAt A1 (A2 θ) θ := fun θ => hasDerivAt_paramIntegral Yt Ytt 0 (2 * π) hYtc' hYttc h2 θ
  have hA2c : Continuous A2 := intervalIntegral.continuous_parametric_intervalIntegral_of_continuous' hYttc 0 (2 * π)
  have hA1c := continuous_of_hasDerivAt hd2
  have hAc := continuous_of_hasDerivAt hd1
  have hpp : ∀ θ, ∫ φ in (0 : ℝ)..(2 * π), Ypp θ φ = 0 := by
    intro θ
    rw [integral_eq_sub_of_hasDerivAt (fun φ _ => h3 θ φ) ((hYppc θ).intervalIntegrable _ _), hper θ, sub_self]
  -- the eigen-equation integrated over the azimuth: `sin θ` times the zonal equation for `A`; the factor goes by continuity
  have hint : ∀ θ, sin θ * (sin θ * A2 θ + cos θ * A1 θ + (l : ℝ) * (l + 1) * (sin θ * A θ)) = 0 := by
    intro θ
    have e : ∫ φ in (0 : ℝ)..(2 * π), (sin θ * (sin θ * Ytt θ φ + cos θ * Yt θ φ) + Ypp θ φ)
        = ∫ φ in (0 : ℝ)..(2 * π), -((l : ℝ) * (l + 1)) * (sin θ ^ 2 * Y θ φ) := by
      congr 1; funext φ; exact heig θ φ
    have i2 := ((hYttc' θ).intervalIntegrable (μ := volume) 0 (2 * π)).const_mul (sin θ)
    have i3 := ((hYtc' θ).intervalIntegrable (μ := volume) 0 (2 * π)).const_mul (cos θ)
    rw [intervalIntegral.integral_add ((i2.add i3).const_mul _) ((hYppc θ).intervalIntegrable _ _), hpp θ, add_zero,
      intervalIntegral.integral_const_mul, intervalIntegral.integral_add i2 i3, intervalIntegral.integral_const_mul,
      intervalIntegral.integral_const_mul, intervalIntegral.integral_const_mul, intervalIntegral.integral_const_mul] at e
    simp only [hA, hA1, hA2]
    linear_combination e
  have hg : Continuous fun θ => sin θ * A2 θ + cos θ * A1 θ + (l : ℝ) * (l + 1) * (sin θ * A θ) :=
    ((continuous_sin.mul hA2c).add (continuous_cos.mul hA1c)).add (continuous_const.mul (continuous_sin.mul hAc))
  have hz := eq_zero_of_sin_mul_eq_zero _ hg hint
  exact zonal_mean_zero A A1 A2 l hl hd1 hd2 hA2c (fun t => by have := hz t; linarith)

/-- volume enclosed by the radial graph `r(θ, φ)`: `(1/3) ∫₀^π (∫₀^{2π} r³ dφ) sin θ dθ` -/
noncomputable def sphVolume (r : ℝ → ℝ → ℝ) : ℝ :=
  1 / 3 * ∫ θ in (0 : ℝ)..π, (∫ φ in (0 : ℝ)..(2 * π), r θ φ ^ 3) * sin θ

theorem sphere_integral_add {f g : ℝ → ℝ → ℝ} (hf : Continuous (Function.uncurry f)) (hg : Continuous (Function.uncurry g)) :
    ∫ θ in (0 : ℝ)..π, (∫ φ in (0 : ℝ)..(2 * π), (f θ φ + g θ φ)) * sin θ =
      (∫ θ in (0 : ℝ)..π, (∫ φ in (0 : ℝ)..(2 * π), f θ φ) * sin θ) +
        ∫ θ in (0 : ℝ)..π, (∫ φ in (0 : ℝ)..(2 * π), g θ φ) * sin θ := by
  have sec : ∀ {h : ℝ → ℝ → ℝ}, Continuous (Function.uncurry h) → ∀ θ, IntervalIntegrable (h θ) volume 0 (2 * π) :=
    fun hh θ => (hh.uncurry_left θ).intervalIntegrable _ _
  have outer : ∀ {h : ℝ → ℝ → ℝ}, Continuous (Function.uncurry h) →
      IntervalIntegrable (fun θ => (∫ φ in (0 : ℝ)..(2 * π), h θ φ) * sin θ) volume 0 π := fun hh =>
    ((continuous_parametric_intervalIntegral_of_continuous' hh 0 (2 * π)).mul continuous_sin).intervalIntegrable _ _
  simp_rw [intervalIntegral.integral_add (sec hf _) (sec hg _), add_mul]
  exact intervalIntegral.integral_add (outer hf) (outer hg)

theorem sphere_integral_const_mul (c : ℝ) (f : ℝ → ℝ → ℝ) :
    ∫ θ in (0 : ℝ)..π, (∫ φ in (0 : ℝ)..(2 * π), c * f θ φ) * sin θ =
      c * ∫ θ in (0 : ℝ)..π, (∫ φ in (0 : ℝ)..(2 * π), f θ φ) * sin θ := by
  simp_rw [intervalIntegral.integral_const_mul, mul_assoc, intervalIntegral.integral_const_mul]

theorem sphere_integral_one : ∫ θ in (0 : ℝ)..π, (∫ _ in (0 : ℝ)..(2 * π), (1 : ℝ)) * sin θ = 4 * π := by
  simp only [intervalIntegral.integral_const, sub_zero, smul_eq_mul, mul_one, intervalIntegral.integral_const_mul, integral_sin,
    cos_zero, cos_pi]
  ring

theorem sphVolume_sphere (R : ℝ) : sphVolume (fun _ _ => R) = 4 / 3 * π * R ^ 3 := by
  have := sphere_integral_const_mul (R ^ 3) fun _ _ => 1
  simp only [mul_one, sphere_integral_one] at this
  rw [sphVolume, this]; ring

theorem sphVolume_hasDerivAt (R : ℝ) (u : ℝ → ℝ → ℝ) (hu : Continuous (Function.uncurry u)) :
    HasDerivAt (fun ε : ℝ => sphVolume (fun θ φ => R * (1 + ε * u θ φ)))
      (R ^ 3 * ∫ θ in (0 : ℝ)..π, (∫ φ in (0 : ℝ)..(2 * π), u θ φ) * sin θ) 0 := by
  -- the cube is expanded under the integral: a cubic polynomial in `ε` whose linear coefficient is `R³` times the mean of `u`
  obtain ⟨c, d, hexp⟩ : ∃ c d : ℝ, ∀ ε, sphVolume (fun θ φ => R * (1 + ε * u θ φ)) = 4 / 3 * π * R ^ 3 +
      (R ^ 3 * ∫ θ in (0 : ℝ)..π, (∫ φ in (0 : ℝ)..(2 * π), u θ φ) * sin θ) * ε + c * ε ^ 2 + d * ε ^ 3 := by
    refine ⟨R ^ 3 * ∫ θ in (0 : ℝ)..π, (∫ φ in (0 : ℝ)..(2 * π), u θ φ ^ 2) * sin θ,
      R ^ 3 / 3 * ∫ θ in (0 : ℝ)..π, (∫ φ in (0 : ℝ)..(2 * π), u θ φ ^ 3) * sin θ, fun ε => ?_⟩
    have e : ∀ θ φ, (R * (1 + ε * u θ φ)) ^ 3 = R ^ 3 * u θ φ ^ 0 +
        (3 * R ^ 3 * ε * u θ φ ^ 1 + (3 * R ^ 3 * ε ^ 2 * u θ φ ^ 2 + R ^ 3 * ε ^ 3 * u θ φ ^ 3)) := fun θ φ => by ring
    have hk : ∀ (c : ℝ) (k : ℕ), Continuous (Function.uncurry fun θ φ => c * u θ φ ^ k) := fun c k =>
      continuous_const.mul (hu.pow k)
    have hadd : ∀ {f g : ℝ → ℝ → ℝ}, Continuous (Function.uncurry f) → Continuous (Function.uncurry g) →
        Continuous (Function.uncurry fun θ φ => f θ φ + g θ φ) := fun hf hg => hf.add hg
    simp_rw [sphVolume, e]
    rw [sphere_integral_add (hk _ 0) (hadd (hk _ 1) (hadd (hk _ 2) (hk _ 3))),
      sphere_integral_add (hk _ 1) (hadd (hk _ 2) (hk _ 3)), sphere_integral_add (hk _ 2) (hk _ 3)]
    simp only [sphere_integral_const_mul, pow_zero, pow_one, sphere_integral_one]
    ring
  rw [funext hexp]
  exact cubic_deriv _ _ _ _

/-- **The volume of a perturbed sphere has no first-order term when the perturbation has zero mean over the sphere** -/
theorem sphVolume_first_order (R : ℝ) (u : ℝ → ℝ → ℝ) (hu : Continuous (Function.uncurry u))
    (hmean : ∫ θ in (0 : ℝ)..π, (∫ φ in (0 : ℝ)..(2 * π), u θ φ) * sin θ = 0) :
    sphVolume (fun _ _ => R) = 4 / 3 * π * R ^ 3 ∧
    HasDerivAt (fun ε : ℝ => sphVolume (fun θ φ => R * (1 + ε * u θ φ))) 0 0 :=
  ⟨sphVolume_sphere R, by simpa only [hmean, mul_zero] using sphVolume_hasDerivAt R u hu⟩

theorem revVolume_eq_sphVolume (r : ℝ → ℝ) : revVolume r = sphVolume fun θ _ => r θ := by
  simp only [revVolume, sphVolume, intervalIntegral.integral_const, sub_zero, smul_eq_mul, mul_assoc,
    intervalIntegral.integral_const_mul]
  ring

/-- **The volume of a perturbed sphere of revolution has no first-order term when the perturbation has zero mean**
(`∫ u sin θ = 0`; the coefficient in general is `sphVolume_hasDerivAt`'s) -/
theorem revVolume_first_order (R : ℝ) (u : ℝ → ℝ) (hu : Continuous u) (hmean : ∫ t in (0 : ℝ)..π, u t * sin t = 0) :
    revVolume (fun _ => R) = 4 / 3 * π * R ^ 3 ∧
    HasDerivAt (fun ε : ℝ => revVolume (fun t => R * (1 + ε * u t))) 0 0 := by
  simp only [revVolume_eq_sphVolume]
  refine sphVolume_first_order R (fun θ _ => u θ) (hu.comp continuous_fst) ?_
  simp only [intervalIntegral.integral_const, sub_zero, smul_eq_mul, mul_assoc, intervalIntegral.integral_const_mul, hmean,
    mul_zero]

end DV.Fourier
