/-
  The `ℝ` instance of the operation class, with the `@[simp]` lemmas through which `simp [f]`
  turns a generated definition `f` into its real-number reading.
-/
import Mathlib.Analysis.SpecialFunctions.Pow.Real
import DropletsVerif.Num

namespace DV

/-- value of an untranslatable construct: an opaque real about which nothing can be proved -/
opaque untranslatedReal : ℝ

noncomputable instance instDNumReal : DNum ℝ :=
  { (inferInstance : Add ℝ), (inferInstance : Sub ℝ), (inferInstance : Mul ℝ),
    (inferInstance : Div ℝ), (inferInstance : Neg ℝ) with
    lit := fun n => (n : ℝ)
    pi := Real.pi
    sqrt := Real.sqrt
    rpow := fun x y => x ^ y
    npow := fun x n => x ^ n
    tanh := Real.tanh
    sin := Real.sin
    cos := Real.cos
    lt := fun x y => decide (x < y)
    eqz := fun x => decide (x = 0)
    untranslated := untranslatedReal }

@[simp] theorem dnum_lit (n : Nat) : (DNum.lit n : ℝ) = (n : ℝ) := rfl
@[simp] theorem dnum_pi : (DNum.pi : ℝ) = Real.pi := rfl
@[simp] theorem dnum_sqrt (x : ℝ) : DNum.sqrt x = Real.sqrt x := rfl
@[simp] theorem dnum_rpow (x y : ℝ) : DNum.rpow x y = x ^ y := rfl
@[simp] theorem dnum_npow (x : ℝ) (n : Nat) : DNum.npow x n = x ^ n := rfl
@[simp] theorem dnum_tanh (x : ℝ) : DNum.tanh x = Real.tanh x := rfl
@[simp] theorem dnum_sin (x : ℝ) : DNum.sin x = Real.sin x := rfl
@[simp] theorem dnum_cos (x : ℝ) : DNum.cos x = Real.cos x := rfl
@[simp] theorem dnum_lt (x y : ℝ) : (DNum.lt x y = true) = (x < y) := decide_eq_true_eq
@[simp] theorem dnum_eqz_true (x : ℝ) : (DNum.eqz x = true) = (x = 0) := decide_eq_true_eq
@[simp] theorem dnum_eqz_false (x : ℝ) : (DNum.eqz x = false) = (x ≠ 0) := propext decide_eq_false_iff_not

end DV
