/-
  The grid of Model/Render.lean as C01 and C03 speak of it, and why a rendered ball is one piece.

  One axis (`Axis.WF`): the (periodic) difference `diff c i` is the offset `latOff` of the lattice point
  `unwrapIdx i ≡ i (mod n)` of the axis continued beyond the box (`diff_eq_latOff`; `axisWrap` counts the periods), and
  that is the only lattice point of its class whose offset lies in the fundamental range (`unwrapIdx_unique`).  Hence `t` cells
  further the offset is `t·dx` larger whenever that value lies in the range (`diff_shift`), and the wrap counts of a cell near
  the centre and of a cell one step away differ by the periods in that step (`axisWrap_sub`).
  The grid (`GridWF`, `shapeOf`, `perOf`): symmetric face adjacency `Adj`, the difference `diffAt` of a multi-index along
  one axis, `dist2` as the sum of their squares.

  The descent: a rendered ball `S = { cells : Σ_a diff_a(c_a, i_a)² < R² }` is ONE face-connected set of cells under the
  grid's topology (`C01.ball_connected` draws that conclusion), because from every cell one can walk, one face step at a
  time and without increasing the distance from the centre (so without leaving `S`), to the one cell that is nearest to
  the centre along every axis (`Nearest`, ties broken towards the lower side): `common_descent`.
  No assumption on the radius, the position of the centre (inside or outside the box) or the periodicity.
-/
import DropletsVerif.Lemmas.WrapDiff
import DropletsVerif.Lemmas.GridGeom

namespace DV.BallConn
open DV.Render DV.WrapDiff

/-! ### one axis -/

section axis
variable (a : Axis) (c : ℚ)

structure Axis.WF (a : Axis) : Prop where
  dx_pos : 0 < a.dx
  n_pos : 0 < a.n

theorem length_pos (h : Axis.WF a) : 0 < a.length := by
  unfold Axis.length
  exact mul_pos h.dx_pos (by exact_mod_cast h.n_pos)

theorem dx_le_length (h : Axis.WF a) : a.dx ≤ a.length :=
  le_mul_of_one_le_right h.dx_pos.le (by exact_mod_cast h.n_pos)

theorem centre_sub (i i' : ℕ) : a.centre i' - a.centre i = ((i' : ℚ) - i) * a.dx := by
  unfold Axis.centre; ring

theorem diff_nonper (hp : a.periodic = false) (i : ℕ) : a.diff c i = a.centre i - c := by
  unfold Axis.diff; simp [hp]

theorem diff_per (hp : a.periodic = true) (i : ℕ) : a.diff c i = wrapDiff a.length (a.centre i - c) := by
  unfold Axis.diff; rw [if_pos hp]

theorem diff_range (h : Axis.WF a) (hp : a.periodic = true) (i : ℕ) :
    -(a.length / 2) ≤ a.diff c i ∧ a.diff c i < a.length / 2 := by
  rw [diff_per a c hp]
  exact wrapDiff_range _ _ (length_pos a h)

/-- whole periods by which the periodic difference of cell `i` was shifted -/
def axisWrap (i : ℕ) : ℤ := if a.periodic then ((a.centre i - c + a.length / 2) / a.length).floor else 0

theorem diff_eq_sub_wrap (i : ℕ) : a.diff c i = a.centre i - c - axisWrap a c i * a.length := by
  unfold Axis.diff axisWrap
  split_ifs
  · rw [wrapDiff_eq_sub_floor]
  · simp

/-- offset from `c` of the centre of lattice cell `m` of the axis continued beyond the box -/
def latOff (m : ℤ) : ℚ := a.lo + ((m : ℚ) + 1 / 2) * a.dx - c

/-- lattice index of cell `i` unwrapped around `c` -/
def unwrapIdx (i : ℕ) : ℤ := (i : ℤ) - axisWrap a c i * (a.n : ℤ)

theorem latOff_eq (m : ℤ) : latOff a c m = latOff a c 0 + m * a.dx := by unfold latOff; push_cast; ring

theorem diff_eq_latOff (i : ℕ) : a.diff c i = latOff a c (unwrapIdx a c i) := by
  rw [diff_eq_sub_wrap]
  unfold unwrapIdx latOff Axis.centre Axis.length
  push_cast; ring

theorem unwrapIdx_emod {i : ℕ} (hi : i < a.n) : (unwrapIdx a c i % a.n).toNat = i := by
  unfold unwrapIdx
  rw [sub_eq_add_neg, ← neg_mul, Int.add_mul_emod_self_right, Int.emod_eq_of_lt (by positivity) (by exact_mod_cast hi)]
  rfl

theorem unwrapIdx_nonper (hp : a.periodic = false) (i : ℕ) : unwrapIdx a c i = i := by
  unfold unwrapIdx axisWrap
  rw [hp, if_neg Bool.false_ne_true, Int.zero_mul, sub_zero]

/-- `i'` is the face neighbour of `i` in the direction of increasing index (inside the box, or across the
periodic boundary from the last to the first cell) -/
def Up (i i' : ℕ) : Prop := (i' = i + 1 ∧ i' < a.n) ∨ (a.periodic = true ∧ i = a.n - 1 ∧ i' = 0 ∧ i < a.n)

/-- cell `i` is nearest to the centre among the cells of this axis (ties broken towards the lower side): within
half a cell of it, or the boundary cell of a non-periodic axis on the side of a centre further out -/
def Nearest (i : ℕ) : Prop :=
  (a.diff c i < a.dx / 2 ∨ (a.periodic = false ∧ i = 0)) ∧
  (-(a.dx / 2) ≤ a.diff c i ∨ (a.periodic = false ∧ i = a.n - 1))

instance (i : ℕ) : Decidable (Nearest a c i) := by unfold Nearest; infer_instance

variable {a}

/-- `unwrapIdx a c j` is the one lattice index congruent to `j` modulo the cell number whose offset lies in the fundamental range -/
theorem unwrapIdx_unique (h : Axis.WF a) {j : ℕ} {m k : ℤ} (hj : (j : ℤ) = m + k * a.n)
    (hk : a.periodic = false → k = 0)
    (hr : a.periodic = true → -(a.length / 2) ≤ latOff a c m ∧ latOff a c m < a.length / 2) :
    unwrapIdx a c j = m := by
  cases hp : a.periodic
  · rw [unwrapIdx_nonper a c hp, hj, hk hp, zero_mul, add_zero]
  · obtain ⟨r1, r2⟩ := diff_range a c h hp j
    rw [diff_eq_latOff] at r1 r2
    have hu : unwrapIdx a c j = m + (k - axisWrap a c j) * a.n := by unfold unwrapIdx; rw [hj]; ring
    have := int_eq_zero_of_range r1 r2 (hr hp).1 (hr hp).2 (k := k - axisWrap a c j) (by
      rw [hu]; unfold latOff Axis.length; push_cast; ring)
    rw [hu, this, zero_mul, add_zero]

theorem latOff_unwrapIdx_add (i : ℕ) (t : ℤ) : latOff a c (unwrapIdx a c i + t) = a.diff c i + t * a.dx := by
  rw [diff_eq_latOff, latOff_eq, latOff_eq a c (unwrapIdx a c i)]; push_cast; ring

/-- `t` cells further (the index counted modulo `n` on a periodic axis) the offset is `t·dx`
larger, provided that value lies in the fundamental range -/
theorem diff_shift (h : Axis.WF a) {i j : ℕ} {t m : ℤ} (hj : (j : ℤ) = i + t + m * a.n)
    (hm : a.periodic = false → m = 0)
    (hr : a.periodic = true → -(a.length / 2) ≤ a.diff c i + t * a.dx ∧ a.diff c i + t * a.dx < a.length / 2) :
    a.diff c j = a.diff c i + t * a.dx := by
  rw [diff_eq_latOff a c j, unwrapIdx_unique c h (m := unwrapIdx a c i + t) (k := m + axisWrap a c i)
    (by rw [hj]; unfold unwrapIdx; ring)
    (fun hp => by rw [hm hp, axisWrap, hp]; rfl) (fun hp => latOff_unwrapIdx_add c i t ▸ hr hp), latOff_unwrapIdx_add]

/-- **a cell near the centre and a cell an index step away modulo the cell number differ in wrap count by the periods in that step**:
`s` is the step seen from the centre (`|s| ≤ 1`), `t` the periods the indices jump -/
theorem axisWrap_sub (hwf : Axis.WF a) (hp : a.periodic = true) {ρ : ℚ} (hρ : 2 * (ρ + a.dx) ≤ a.length) {i i' : ℕ}
    (hi : |a.diff c i| < ρ) (s t : ℤ) (hs : |s| ≤ 1) (hii : (i' : ℤ) - i = s + t * a.n) :
    axisWrap a c i' - axisWrap a c i = t := by
  obtain ⟨d1, d2⟩ := abs_lt.mp hi
  have hs' : |(s : ℚ) * a.dx| ≤ a.dx := by
    rw [abs_mul, abs_of_pos hwf.dx_pos]
    exact mul_le_of_le_one_left hwf.dx_pos.le (by exact_mod_cast hs)
  obtain ⟨s1, s2⟩ := abs_le.mp hs'
  -- one cell from a cell within `ρ` of the centre the offset is still in the fundamental range, so the unwrapped index moves by `s`
  have hu := unwrapIdx_unique c hwf (j := i') (m := unwrapIdx a c i + s) (k := t + axisWrap a c i)
    (by unfold unwrapIdx; linear_combination hii) (fun h => by rw [hp] at h; cases h)
    (fun _ => by rw [latOff_unwrapIdx_add]; exact ⟨by linarith only [d1, s1, hρ], by linarith only [d2, s2, hρ]⟩)
  unfold unwrapIdx at hu
  exact mul_right_cancel₀ (Int.natCast_ne_zero.mpr hwf.n_pos.ne') (by linear_combination hii - hu)

theorem up_eq_succ_add {i i' : ℕ} (hup : Up a i i') :
    ∃ m : ℤ, (i' : ℤ) = i + 1 + m * a.n ∧ (a.periodic = false → m = 0) := by
  rcases hup with ⟨rfl, _⟩ | ⟨hp, rfl, rfl, hlt⟩
  · exact ⟨0, by omega, fun _ => rfl⟩
  · exact ⟨-1, by omega, fun hf => by rw [hp] at hf; cases hf⟩

theorem diff_up (h : Axis.WF a) {i i' : ℕ} (hup : Up a i i')
    (hr : a.periodic = true → a.diff c i + a.dx < a.length / 2) :
    a.diff c i' = a.diff c i + a.dx := by
  obtain ⟨m, hm, hm0⟩ := up_eq_succ_add hup
  have := diff_shift c h (t := 1) hm hm0
  rw [Int.cast_one, one_mul] at this
  exact this fun hp => ⟨by linarith [(diff_range a c h hp i).1, h.dx_pos], hr hp⟩

theorem diff_down (h : Axis.WF a) {i i' : ℕ} (hup : Up a i' i)
    (hr : a.periodic = true → -(a.length / 2) ≤ a.diff c i - a.dx) :
    a.diff c i' = a.diff c i - a.dx := by
  obtain ⟨m, hm, hm0⟩ := up_eq_succ_add hup
  have := diff_shift c h (i := i) (j := i') (t := -1) (m := -m) (by rw [hm]; ring)
    fun hp => by rw [hm0 hp]; rfl
  rw [Int.cast_neg, Int.cast_one, neg_one_mul, ← sub_eq_add_neg] at this
  exact this fun hp => ⟨hr hp, by linarith [(diff_range a c h hp i).2, h.dx_pos]⟩

variable {c}

/-- a cell that is not nearest has a face neighbour that is strictly nearer, or equally near and nearest (the tie
`dx/2 ↦ -dx/2`) -/
theorem exists_nearer (h : Axis.WF a) {i : ℕ} (hi : i < a.n) (ht : ¬ Nearest a c i) :
    ∃ i', i' < a.n ∧ (Up a i i' ∨ Up a i' i) ∧
      (a.diff c i' * a.diff c i' < a.diff c i * a.diff c i ∨
        (a.diff c i' * a.diff c i' = a.diff c i * a.diff c i ∧ Nearest a c i')) := by
  have hdx := h.dx_pos
  have hn := h.n_pos
  have hdl := dx_le_length a h
  unfold Nearest at ht
  rw [not_and_or, not_or, not_or, not_lt, not_le] at ht
  rcases ht with ⟨hu, hb⟩ | ⟨hu, hb⟩
  · -- at least half a cell above the centre: the lower neighbour, `dx` further down
    obtain ⟨i', hi', hup⟩ : ∃ i', i' < a.n ∧ Up a i' i := by
      rcases Nat.eq_zero_or_pos i with h0 | h0
      · have hp : a.periodic = true := by simpa [h0] using hb
        exact ⟨a.n - 1, by omega, Or.inr ⟨hp, rfl, h0, by omega⟩⟩
      · exact ⟨i - 1, by omega, Or.inl ⟨by omega, hi⟩⟩
    have hd := diff_down c h hup fun _ => by linarith only [hu, hdl]
    refine ⟨i', hi', Or.inr hup, ?_⟩
    unfold Nearest
    rw [hd]
    rcases hu.eq_or_lt with he | hl
    · rw [← he]
      exact Or.inr ⟨by ring, Or.inl (sub_lt_self _ hdx), Or.inl (le_of_eq (by ring))⟩
    · exact Or.inl (by linarith only [mul_pos hdx (sub_pos.mpr hl)])
  · -- more than half a cell below: the upper neighbour, `dx` further up, is strictly nearer
    obtain ⟨i', hi', hup⟩ : ∃ i', i' < a.n ∧ Up a i i' := by
      by_cases hl : i = a.n - 1
      · have hp : a.periodic = true := by simpa [hl] using hb
        exact ⟨0, hn, Or.inr ⟨hp, hl, rfl, hi⟩⟩
      · exact ⟨i + 1, by omega, Or.inl ⟨rfl, by omega⟩⟩
    have hd := diff_up c h hup fun _ => by linarith only [hu, hdl, hdx]
    refine ⟨i', hi', Or.inl hup, Or.inl ?_⟩
    rw [hd]
    linarith only [mul_pos hdx (sub_pos.mpr hu)]

theorem nearest_unique (h : Axis.WF a) {i j : ℕ} (hi : i < a.n) (hj : j < a.n)
    (ti : Nearest a c i) (tj : Nearest a c j) : i = j := by
  by_contra hne
  wlog hij : i < j generalizing i j
  · exact this hj hi tj ti (Ne.symm hne) (by omega)
  have hdx := h.dx_pos
  -- neither cell is the boundary cell on the side of the other
  have uj : a.diff c j < a.dx / 2 := tj.1.resolve_right fun x => by omega
  have ui : -(a.dx / 2) ≤ a.diff c i := ti.2.resolve_right fun x => by omega
  rw [diff_eq_latOff, latOff_eq] at uj ui
  -- so the unwrapped index of `j` is not above that of `i`
  have hle : unwrapIdx a c j ≤ unwrapIdx a c i :=
    Int.lt_add_one_iff.mp (int_lt_of_mul_lt hdx (by push_cast; linarith only [uj, ui]))
  cases hp : a.periodic
  · rw [unwrapIdx_nonper a c hp, unwrapIdx_nonper a c hp] at hle
    omega
  · -- periodic: both offsets lie in `[-dx/2, dx/2)`, so the unwrapped indices agree, and they determine the cells
    have uj' : -(a.dx / 2) ≤ a.diff c j := tj.2.resolve_right fun x => by simp [hp] at x
    have ui' : a.diff c i < a.dx / 2 := ti.1.resolve_right fun x => by simp [hp] at x
    rw [diff_eq_latOff, latOff_eq] at uj' ui'
    have hge : unwrapIdx a c i ≤ unwrapIdx a c j :=
      Int.lt_add_one_iff.mp (int_lt_of_mul_lt hdx (by push_cast; linarith only [uj', ui']))
    have := unwrapIdx_emod a c hi
    rw [le_antisymm hge hle, unwrapIdx_emod a c hj] at this
    exact hne this.symm

end axis

/-! ### squared distance as a sum; changing one coordinate -/

-- the `default` of `axes.getD k default`; never reached where `k < axes.length`
instance : Inhabited Axis := ⟨⟨0, 0, 0, false⟩⟩

/-- difference along axis `k` of the cell with multi-index `idx` -/
def diffAt (axes : List Axis) (c : List ℚ) (idx : List ℕ) (k : ℕ) : ℚ :=
  (axes.getD k default).diff (c.getD k 0) (idx.getD k 0)

/-- `dist2` of Model/Render.lean sums the squared differences over the common length of the three lists -/
theorem dist2_eq_sum_min : ∀ (axes : List Axis) (c : List ℚ) (idx : List ℕ),
    dist2 axes c idx = ∑ k ∈ Finset.range (min axes.length (min c.length idx.length)),
      diffAt axes c idx k * diffAt axes c idx k
  | [], _, _ => by simp [dist2]
  | _ :: _, [], _ => by simp [dist2]
  | _ :: _, _ :: _, [] => by simp [dist2]
  | a :: as, c :: cs, i :: is => by
    have ih := dist2_eq_sum_min as cs is
    unfold dist2 at ih ⊢
    simp only [List.zip_cons_cons, List.map_cons, List.sum_cons, ih, List.length_cons, Nat.add_min_add_right,
      Finset.sum_range_succ', diffAt, List.getD_cons_succ, List.getD_cons_zero]
    ring

theorem dist2_set (axes : List Axis) (c : List ℚ) (idx : List ℕ) (k i' : ℕ)
    (h1 : k < axes.length) (h2 : k < c.length) (h3 : k < idx.length) :
    dist2 axes c (idx.set k i') =
      dist2 axes c idx - diffAt axes c idx k * diffAt axes c idx k
        + (axes.getD k default).diff (c.getD k 0) i' * (axes.getD k default).diff (c.getD k 0) i' := by
  have hk : k ∈ Finset.range (min axes.length (min c.length idx.length)) := by
    rw [Finset.mem_range]; omega
  rw [dist2_eq_sum_min, dist2_eq_sum_min, List.length_set, ← Finset.add_sum_erase _ _ hk,
    ← Finset.add_sum_erase _ (fun j => diffAt axes c idx j * diffAt axes c idx j) hk,
    Finset.sum_congr rfl fun j hj => by rw [diffAt, GridGeom.getD_set_ne idx (Finset.ne_of_mem_erase hj).symm, ← diffAt]]
  rw [diffAt, GridGeom.getD_set_self idx h3]
  ring

/-! ### the grid -/

section grid
open DV.Merge DV.GridGeom

variable (axes : List Axis) (ctr : List ℚ)

def shapeOf : List ℕ := axes.map (·.n)
def perOf : List Bool := axes.map (·.periodic)

structure GridWF : Prop where
  wf : ∀ a ∈ axes, Axis.WF a
  len : ctr.length = axes.length

/-- symmetric face adjacency under the grid's topology: `c'` is a face neighbour of `c`, or `c` one of `c'` -/
def Adj (c c' : ℕ) : Prop :=
  (∃ ax, StepUp (shapeOf axes) ax c c' ∨ Across (shapeOf axes) (perOf axes) ax c c') ∨
    ∃ ax, StepUp (shapeOf axes) ax c' c ∨ Across (shapeOf axes) (perOf axes) ax c' c

variable {axes ctr}

theorem shape_pos (h : GridWF axes ctr) : ∀ n ∈ shapeOf axes, 0 < n := by
  intro n hn
  obtain ⟨a, ha, rfl⟩ := List.mem_map.mp hn
  exact (h.wf a ha).n_pos

theorem shape_length : (shapeOf axes).length = axes.length := List.length_map _

theorem shape_getD {k : ℕ} (hk : k < axes.length) : (shapeOf axes).getD k 1 = (axes.getD k default).n :=
  getD_map_lt _ axes hk _ _

theorem per_getD {k : ℕ} (hk : k < axes.length) : (perOf axes).getD k false = (axes.getD k default).periodic :=
  getD_map_lt _ axes hk _ _

theorem axis_wf (h : GridWF axes ctr) {k : ℕ} (hk : k < axes.length) : Axis.WF (axes.getD k default) :=
  h.wf _ (getD_mem axes hk _)

theorem coord_lt (h : GridWF axes ctr) (c : ℕ) {k : ℕ} (hk : k < axes.length) :
    coordOf (shapeOf axes) c k < (axes.getD k default).n := by
  have := coordOf_lt (shapeOf axes) (shape_pos h) c k (by rwa [shape_length])
  rwa [shape_getD hk] at this

theorem unflat_length (h : GridWF axes ctr) (c : ℕ) : (unflat (shapeOf axes) c).length = axes.length := by
  rw [length_unflat _ (shape_pos h), shape_length]

theorem coord_of_set (h : GridWF axes ctr) {c c' : ℕ} {k v : ℕ} (hk : k < axes.length)
    (hs : unflat (shapeOf axes) c' = (unflat (shapeOf axes) c).set k v) :
    coordOf (shapeOf axes) c' k = v ∧ ∀ j, j ≠ k → coordOf (shapeOf axes) c' j = coordOf (shapeOf axes) c j :=
  ⟨coordOf_set_self hs (by rwa [unflat_length h]), fun _ hj => coordOf_set_ne hs (Ne.symm hj)⟩

theorem GridWF.setCoord_spec (h : GridWF axes ctr) (c : ℕ) {k : ℕ} (hk : k < axes.length) {i' : ℕ}
    (hi' : i' < (axes.getD k default).n) :
    setCoord (shapeOf axes) c k i' < numCells (shapeOf axes) ∧
      unflat (shapeOf axes) (setCoord (shapeOf axes) c k i') = (unflat (shapeOf axes) c).set k i' :=
  GridGeom.setCoord_spec (shapeOf axes) (shape_pos h) c k i' (by rwa [shape_getD hk])

theorem adj_setCoord (h : GridWF axes ctr) {c : ℕ} (hc : c < numCells (shapeOf axes)) {k : ℕ} (hk : k < axes.length) {i' : ℕ}
    (hup : Up (axes.getD k default) (coordOf (shapeOf axes) c k) i' ∨ Up (axes.getD k default) i' (coordOf (shapeOf axes) c k))
    (hi' : i' < (axes.getD k default).n) : Adj axes c (setCoord (shapeOf axes) c k i') := by
  have hsg := shape_getD hk
  have hpg := per_getD hk
  have hkl : k < (shapeOf axes).length := by rwa [shape_length]
  obtain ⟨s1, s2⟩ := h.setCoord_spec c hk hi'
  have hcoord' := (coord_of_set h hk s2).1
  -- the old multi-index is the new one with coordinate `k` put back
  have hback : unflat (shapeOf axes) c =
      (unflat (shapeOf axes) (setCoord (shapeOf axes) c k i')).set k (coordOf (shapeOf axes) c k) := by
    rw [s2, List.set_set, coordOf, set_getD_self _ k (by rwa [unflat_length h])]
  rcases hup with (⟨e1, e2⟩ | ⟨p1, p2, p3, p4⟩) | (⟨e1, e2⟩ | ⟨p1, p2, p3, p4⟩)
  · exact Or.inl ⟨k, Or.inl ⟨hc, s1, hkl, by rw [s2, e1], by rw [← e1, hsg]; exact e2⟩⟩
  · exact Or.inr ⟨k, Or.inr ⟨s1, hc, hkl, hpg.trans p1, hcoord'.trans p3, by rw [hsg, ← p2]; exact hback⟩⟩
  · exact Or.inr ⟨k, Or.inl ⟨s1, hc, hkl, by rw [hcoord', ← e1]; exact hback, by rw [hcoord', ← e1, hsg]; exact e2⟩⟩
  · exact Or.inl ⟨k, Or.inr ⟨hc, s1, hkl, hpg.trans p1, p3, by rw [s2, p2, hsg]⟩⟩

end grid

/-! ### descent to the nearest cell -/

section descent
open DV.Merge DV.GridGeom Relation

variable (axes : List Axis) (ctr : List ℚ)

/-- squared distance of the flat cell `c` from the centre -/
def D (c : ℕ) : ℚ := dist2 axes ctr (unflat (shapeOf axes) c)

/-- difference of cell `c` along axis `k` -/
def U (c k : ℕ) : ℚ := diffAt axes ctr (unflat (shapeOf axes) c) k

theorem U_eq (c k : ℕ) : U axes ctr c k = (axes.getD k default).diff (ctr.getD k 0) (coordOf (shapeOf axes) c k) := rfl

/-- a face step that does not increase the distance from the centre -/
def Step (a b : ℕ) : Prop :=
  a < numCells (shapeOf axes) ∧ b < numCells (shapeOf axes) ∧ Adj axes a b ∧ D axes ctr b ≤ D axes ctr a

def Path : ℕ → ℕ → Prop := ReflTransGen (Step axes ctr)

def NearestAt (c k : ℕ) : Prop := Nearest (axes.getD k default) (ctr.getD k 0) (coordOf (shapeOf axes) c k)

instance (c k : ℕ) : Decidable (NearestAt axes ctr c k) := by unfold NearestAt; infer_instance

/-- termination measure of the descent: the number of cells nearer to the centre than `c`, plus the number of
axes along which `c` is not nearest -/
def descentRank (c : ℕ) : ℕ :=
  ((Finset.range (numCells (shapeOf axes))).filter fun x => D axes ctr x < D axes ctr c).card +
    ((Finset.range axes.length).filter fun k => ¬ NearestAt axes ctr c k).card

variable {axes ctr}

theorem D_eq_sum (h : GridWF axes ctr) (c : ℕ) :
    D axes ctr c = ∑ a ∈ Finset.range axes.length, U axes ctr c a ^ 2 := by
  unfold D U
  rw [dist2_eq_sum_min, h.len, unflat_length h c, min_self, min_self]
  exact Finset.sum_congr rfl fun a _ => (sq _).symm

theorem U_sq_le_D (h : GridWF axes ctr) (c : ℕ) {k : ℕ} (hk : k < axes.length) :
    U axes ctr c k * U axes ctr c k ≤ D axes ctr c := by
  rw [D_eq_sum h c, ← sq]
  exact Finset.single_le_sum (f := fun a => U axes ctr c a ^ 2) (fun a _ => sq_nonneg _) (Finset.mem_range.mpr hk)

theorem D_set (h : GridWF axes ctr) {c c' : ℕ} {k : ℕ} (hk : k < axes.length) {i' : ℕ}
    (hs : unflat (shapeOf axes) c' = (unflat (shapeOf axes) c).set k i') :
    D axes ctr c' = D axes ctr c - U axes ctr c k * U axes ctr c k
      + (axes.getD k default).diff (ctr.getD k 0) i' * (axes.getD k default).diff (ctr.getD k 0) i' := by
  unfold D U
  rw [hs, dist2_set axes ctr _ k i' hk (by rwa [h.len]) (by rwa [unflat_length h])]

/-- a cell that is not nearest along axis `k` has a face neighbour along `k` that is nearer (fewer cells are
nearer still), or equally near and nearest along `k` (one axis less to go, the others keep their coordinate) -/
theorem exists_step_rank_lt (h : GridWF axes ctr) {c : ℕ} (hc : c < numCells (shapeOf axes)) {k : ℕ} (hk : k < axes.length)
    (ht : ¬ NearestAt axes ctr c k) : ∃ c', Step axes ctr c c' ∧ descentRank axes ctr c' < descentRank axes ctr c := by
  obtain ⟨i', hi', hup, hcl⟩ := exists_nearer (axis_wf h hk) (coord_lt h c hk) ht
  obtain ⟨s1, s2⟩ := h.setCoord_spec c hk hi'
  obtain ⟨m4, m3⟩ := coord_of_set h hk s2
  set c' := setCoord (shapeOf axes) c k i'
  have hD : D axes ctr c' < D axes ctr c ∨ (D axes ctr c' = D axes ctr c ∧ NearestAt axes ctr c' k) := by
    rw [D_set h hk s2, U_eq]
    rcases hcl with h1 | ⟨h1, h2⟩
    · exact Or.inl (by linarith only [h1])
    · exact Or.inr ⟨by linarith only [h1], by unfold NearestAt; rwa [m4]⟩
  refine ⟨c', ⟨hc, s1, adj_setCoord h hc hk hup hi', hD.elim le_of_lt fun h => h.1.le⟩, ?_⟩
  have hsub : ((Finset.range axes.length).filter fun j => ¬ NearestAt axes ctr c' j) ⊆
      (Finset.range axes.length).filter fun j => ¬ NearestAt axes ctr c j := by
    intro j hj
    simp only [Finset.mem_filter, Finset.mem_range] at hj ⊢
    refine ⟨hj.1, ?_⟩
    by_cases hjk : j = k
    · rw [hjk]; exact ht
    · have := hj.2
      unfold NearestAt at this ⊢
      rwa [m3 j hjk] at this
  unfold descentRank
  rcases hD with hlt | ⟨heq, hT⟩
  · refine Nat.add_lt_add_of_lt_of_le (Finset.card_lt_card ?_) (Finset.card_le_card hsub)
    rw [Finset.ssubset_iff_of_subset fun x hx => by
      simp only [Finset.mem_filter, Finset.mem_range] at hx ⊢
      exact ⟨hx.1, hx.2.trans hlt⟩]
    exact ⟨c', by simp [s1, hlt], by simp⟩
  · rw [heq]
    refine Nat.add_lt_add_left (Finset.card_lt_card ?_) _
    rw [Finset.ssubset_iff_of_subset hsub]
    exact ⟨k, by simp [hk, ht], by simp [hT]⟩

theorem exists_path_to_nearest (h : GridWF axes ctr) {c : ℕ} (hc : c < numCells (shapeOf axes)) :
    ∃ t, t < numCells (shapeOf axes) ∧ Path axes ctr c t ∧ ∀ k, k < axes.length → NearestAt axes ctr t k := by
  induction hm : descentRank axes ctr c using Nat.strong_induction_on generalizing c with
  | _ m ih =>
    by_cases hex : ∃ k, k < axes.length ∧ ¬ NearestAt axes ctr c k
    · obtain ⟨k, hk, hnt⟩ := hex
      obtain ⟨c', hstep, hlt⟩ := exists_step_rank_lt h hc hk hnt
      obtain ⟨t, ht, hp, hT⟩ := ih _ (hm ▸ hlt) hstep.2.1 rfl
      exact ⟨t, ht, ReflTransGen.head hstep hp, hT⟩
    · exact ⟨c, hc, ReflTransGen.refl, fun k hk => by_contra fun hn => hex ⟨k, hk, hn⟩⟩

theorem nearestAt_unique (h : GridWF axes ctr) {t1 t2 : ℕ} (h1 : t1 < numCells (shapeOf axes)) (h2 : t2 < numCells (shapeOf axes))
    (n1 : ∀ k, k < axes.length → NearestAt axes ctr t1 k) (n2 : ∀ k, k < axes.length → NearestAt axes ctr t2 k) : t1 = t2 := by
  refine coordOf_inj (shapeOf axes) (shape_pos h) h1 h2 fun k hk' => ?_
  have hk : k < axes.length := by rwa [shape_length] at hk'
  exact nearest_unique (axis_wf h hk) (coord_lt h t1 hk) (coord_lt h t2 hk) (n1 k hk) (n2 k hk)

theorem common_descent (h : GridWF axes ctr) {c1 c2 : ℕ} (h1 : c1 < numCells (shapeOf axes)) (h2 : c2 < numCells (shapeOf axes)) :
    ∃ t, t < numCells (shapeOf axes) ∧ Path axes ctr c1 t ∧ Path axes ctr c2 t := by
  obtain ⟨t1, ht1, p1, n1⟩ := exists_path_to_nearest h h1
  obtain ⟨t2, ht2, p2, n2⟩ := exists_path_to_nearest h h2
  obtain rfl := nearestAt_unique h ht1 ht2 n1 n2
  exact ⟨t1, ht1, p1, p2⟩

end descent
end DV.BallConn
