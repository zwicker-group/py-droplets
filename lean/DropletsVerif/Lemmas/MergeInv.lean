/-
  Invariants of the periodic merging loop (Model/Merge.lean), used by Props/C02/Merge.lean.
-/
import DropletsVerif.Model.Merge
import Mathlib.Tactic

namespace DV.MergeInv
open DV.Merge Relation

/-- the guard of `mergeStep` -/
def Merging (st : St) (e : Edge) : Prop := 0 < st.lab e.l ∧ 0 < st.lab e.h ∧ st.lab e.l ≠ st.lab e.h

section step
variable {shape lab0 : Nat → Nat} {st : St} {e : Edge}

theorem step_noop (h : ¬ Merging st e) : mergeStep shape lab0 st e = st := if_neg h

theorem step_inv {Q : St → Prop} (h : Q st) (hm : Merging st e → Q (mergeStep shape lab0 st e)) :
    Q (mergeStep shape lab0 st e) := by
  by_cases h' : Merging st e
  · exact hm h'
  · rwa [step_noop h']

theorem step_lab (h : Merging st e) (c : Nat) :
    (mergeStep shape lab0 st e).lab c = if st.lab c = st.lab e.h then st.lab e.l else st.lab c :=
  congrArg (fun s : St => s.lab c) (if_pos h)

theorem step_cur (h : Merging st e) (k : Nat) :
    (mergeStep shape lab0 st e).cur k = if st.cur k = st.lab e.h then st.lab e.l else st.cur k :=
  congrArg (fun s : St => s.cur k) (if_pos h)

theorem step_off (h : Merging st e) (k a : Nat) :
    (mergeStep shape lab0 st e).off k a =
      if st.cur k = st.lab e.h then st.off k a + shiftOf lab0 st e a else st.off k a :=
  congrArg (fun s : St => s.off k a) (if_pos h)

theorem step_vol (h : Merging st e) (r : Nat) :
    (mergeStep shape lab0 st e).vol r =
      if r = st.lab e.l ∨ r = st.lab e.h then st.vol (st.lab e.l) + st.vol (st.lab e.h) else st.vol r :=
  congrArg (fun s : St => s.vol r) (if_pos h)

theorem step_pos (h : Merging st e) (r a : Nat) :
    (mergeStep shape lab0 st e).pos r a =
      if r = st.lab e.l ∨ r = st.lab e.h then
        (st.pos (st.lab e.l) a * st.vol (st.lab e.l)
          + (st.pos (st.lab e.h) a + (shiftOf lab0 st e a : Rat) * (shape a : Rat)) * st.vol (st.lab e.h))
          / (st.vol (st.lab e.l) + st.vol (st.lab e.h))
      else st.pos r a :=
  congrArg (fun s : St => s.pos r a) (if_pos h)

/-- the weighted mean of `mergeStep` without its division: the first moments `pos · vol` add, the upper
cluster shifted -/
theorem step_moment (h : Merging st e) (hv : st.vol (st.lab e.l) + st.vol (st.lab e.h) ≠ 0) (r a : Nat) :
    (mergeStep shape lab0 st e).pos r a * (mergeStep shape lab0 st e).vol r =
      if r = st.lab e.l ∨ r = st.lab e.h then
        st.pos (st.lab e.l) a * st.vol (st.lab e.l)
          + (st.pos (st.lab e.h) a + (shiftOf lab0 st e a : Rat) * (shape a : Rat)) * st.vol (st.lab e.h)
      else st.pos r a * st.vol r := by
  rw [step_pos h, step_vol h]
  split
  · exact div_mul_cancel₀ _ hv
  · rfl

end step

/-- Invariant rule for the loop: `P st es` says that the loop has reached `st` after the pairs `es`; a step may use
that these, with the current pair, are a prefix of `edges`. -/
theorem mergeLoop_rec {shape lab0 : Nat → Nat} {P : St → List Edge → Prop} {init : St} {edges : List Edge}
    (h0 : P init [])
    (step : ∀ st es e, es ++ [e] <+: edges → P st es → P (mergeStep shape lab0 st e) (es ++ [e])) :
    P (mergeLoop shape lab0 init edges) edges := by
  suffices h : ∀ es, es <+: edges → P (es.foldl (mergeStep shape lab0) init) es from h edges (List.prefix_refl _)
  intro es
  induction es using List.reverseRecOn with
  | nil => exact fun _ => h0
  | append_singleton es e ih =>
    intro hp
    rw [List.foldl_concat]
    exact step _ es e hp (ih ((List.prefix_append es [e]).trans hp))

variable (shape : Nat → Nat) (lab0 : Nat → Nat)

/-! ### part 1: the label image is the quotient by periodic connectivity -/

/-- one-step relation on mask cells: same initial cluster, or a processed boundary pair -/
def Link (es : List Edge) (a b : Nat) : Prop :=
  0 < lab0 a ∧ 0 < lab0 b ∧ (lab0 a = lab0 b ∨ ∃ e ∈ es, e.l = a ∧ e.h = b)

/-- periodic connectivity generated by the initial clusters and the boundary pairs `es` -/
def Conn (es : List Edge) : Nat → Nat → Prop := EqvGen (Link lab0 es)

theorem Conn.mono {lab0 : Nat → Nat} {es es' : List Edge} (h : ∀ e ∈ es, e ∈ es') {a b : Nat}
    (hc : Conn lab0 es a b) : Conn lab0 es' a b :=
  EqvGen.mono (fun _ _ hl => ⟨hl.1, hl.2.1, hl.2.2.imp_right fun ⟨e, he, hab⟩ => ⟨e, h e he, hab⟩⟩) a b hc

theorem eqvGen_le {α : Type} {r p : α → α → Prop} (hp : Equivalence p) (h : ∀ a b, r a b → p a b) {a b : α}
    (hab : EqvGen r a b) : p a b :=
  hp.eqvGen_iff.mp (hab.mono h)

/-- `edge_eq` and `conn_of_eq` are the two directions of "same label ↔ `Conn lab0 es`" (`LabInv.eq_iff_conn`), each in
the form a step preserves; `cur_eq` ties `cur`, which a step updates per initial cluster, to the label image. -/
structure LabInv (st : St) (es : List Edge) : Prop where
  pos_iff : ∀ c, 0 < st.lab c ↔ 0 < lab0 c
  cur_eq : ∀ c, 0 < lab0 c → st.lab c = st.cur (lab0 c)
  edge_eq : ∀ e ∈ es, 0 < lab0 e.l → 0 < lab0 e.h → st.lab e.l = st.lab e.h
  conn_of_eq : ∀ c1 c2, 0 < lab0 c1 → 0 < lab0 c2 → st.lab c1 = st.lab c2 → Conn lab0 es c1 c2

theorem labInv_init {lab0 : Nat → Nat} {coord : Nat → Nat → Nat} {cells : List Nat} :
    LabInv lab0 (initSt coord lab0 cells) [] where
  pos_iff := fun _ => Iff.rfl
  cur_eq := fun _ _ => rfl
  edge_eq := fun _ h => absurd h List.not_mem_nil
  conn_of_eq := fun _ _ h1 h2 h => EqvGen.rel _ _ ⟨h1, h2, Or.inl h⟩

theorem labInv_step {shape lab0 : Nat → Nat} {st : St} {es : List Edge} {e : Edge} (inv : LabInv lab0 st es) :
    LabInv lab0 (mergeStep shape lab0 st e) (es ++ [e]) := by
  have up : ∀ a b, 0 < lab0 a → 0 < lab0 b → st.lab a = st.lab b → Conn lab0 (es ++ [e]) a b :=
    fun a b ha hb hab => Conn.mono (fun x hx => List.mem_append_left _ hx) (inv.conn_of_eq a b ha hb hab)
  by_cases hm : Merging st e
  · obtain ⟨hl, hh, hne⟩ := id hm
    have hl0 : 0 < lab0 e.l := (inv.pos_iff e.l).mp hl
    have hh0 : 0 < lab0 e.h := (inv.pos_iff e.h).mp hh
    have hedge : Conn lab0 (es ++ [e]) e.l e.h :=
      EqvGen.rel _ _ ⟨hl0, hh0, Or.inr ⟨e, by simp, rfl, rfl⟩⟩
    refine ⟨?_, ?_, ?_, ?_⟩
    · intro c
      rw [step_lab hm c, ← inv.pos_iff c]
      split
      · rw [‹st.lab c = st.lab e.h›]
        exact iff_of_true hl hh
      · rfl
    · intro c hc
      rw [step_lab hm c, step_cur hm, inv.cur_eq c hc]
    · intro e' he' h1 h2
      rw [step_lab hm, step_lab hm]
      rcases List.mem_append.mp he' with h | h
      · rw [inv.edge_eq e' h h1 h2]
      · rw [List.mem_singleton.mp h, if_neg hne, if_pos rfl]
    · intro c1 c2 h1 h2 heq
      rw [step_lab hm, step_lab hm] at heq
      -- a cell of the upper cluster reaches the lower cluster through the new pair
      by_cases hc1 : st.lab c1 = st.lab e.h <;> by_cases hc2 : st.lab c2 = st.lab e.h <;>
        simp only [hc1, hc2, if_true, if_false] at heq
      · exact up c1 c2 h1 h2 (hc1.trans hc2.symm)
      · exact ((up c1 e.h h1 hh0 hc1).trans _ _ _ (hedge.symm _ _)).trans _ _ _ (up e.l c2 hl0 h2 heq)
      · exact (up c1 e.l h1 hl0 heq).trans _ _ _ (hedge.trans _ _ _ (up e.h c2 hh0 h2 hc2.symm))
      · exact up c1 c2 h1 h2 heq
  · rw [step_noop hm]
    refine ⟨inv.pos_iff, inv.cur_eq, fun e' he' h1 h2 => ?_, fun c1 c2 h1 h2 h => up c1 c2 h1 h2 h⟩
    rcases List.mem_append.mp he' with h | h
    · exact inv.edge_eq e' h h1 h2
    · rw [List.mem_singleton.mp h] at h1 h2 ⊢
      by_contra hne
      exact hm ⟨(inv.pos_iff _).mpr h1, (inv.pos_iff _).mpr h2, hne⟩

theorem labInv_final (coord : Nat → Nat → Nat) (cells : List Nat) (edges : List Edge) :
    LabInv lab0 (mergeLoop shape lab0 (initSt coord lab0 cells) edges) edges :=
  mergeLoop_rec labInv_init fun _ _ _ _ => labInv_step

theorem LabInv.eq_of_conn {lab0 : Nat → Nat} {st : St} {es : List Edge} (inv : LabInv lab0 st es) {c1 c2 : Nat}
    (h : Conn lab0 es c1 c2) : st.lab c1 = st.lab c2 := by
  refine eqvGen_le (p := fun a b => st.lab a = st.lab b) ⟨fun _ => rfl, Eq.symm, Eq.trans⟩ ?_ h
  rintro a b ⟨ha, hb, h0 | ⟨e, he, rfl, rfl⟩⟩
  · rw [inv.cur_eq a ha, inv.cur_eq b hb, h0]
  · exact inv.edge_eq e he ha hb

theorem LabInv.eq_iff_conn {lab0 : Nat → Nat} {st : St} {es : List Edge} (inv : LabInv lab0 st es) {c1 c2 : Nat}
    (h1 : 0 < lab0 c1) (h2 : 0 < lab0 c2) : st.lab c1 = st.lab c2 ↔ Conn lab0 es c1 c2 :=
  ⟨inv.conn_of_eq c1 c2 h1 h2, inv.eq_of_conn⟩

/-! ### part 2: sums over clusters -/

theorem wsum_nil (lab : Nat → Nat) (r : Nat) (f : Nat → Rat) : wsum lab r f [] = 0 := rfl

theorem wsum_cons (lab : Nat → Nat) (r : Nat) (f : Nat → Rat) (c : Nat) (cells : List Nat) :
    wsum lab r f (c :: cells) = (if lab c = r then f c else 0) + wsum lab r f cells := by
  simp [wsum]

theorem wsum_congr {lab : Nat → Nat} {r : Nat} {F G : Nat → Rat} {cells : List Nat}
    (h : ∀ c ∈ cells, lab c = r → F c = G c) : wsum lab r F cells = wsum lab r G cells := by
  unfold wsum
  refine congrArg List.sum (List.map_congr_left fun c hc => ?_)
  split
  · exact h c hc ‹_›
  · rfl

theorem wsum_add (lab : Nat → Nat) (r : Nat) (F G : Nat → Rat) (cells : List Nat) :
    wsum lab r (fun c => F c + G c) cells = wsum lab r F cells + wsum lab r G cells := by
  unfold wsum
  rw [← List.sum_map_add]
  refine congrArg List.sum (List.map_congr_left fun c _ => ?_)
  split <;> simp

theorem wsum_mul_left (lab : Nat → Nat) (r : Nat) (k : Rat) (F : Nat → Rat) (cells : List Nat) :
    wsum lab r (fun c => k * F c) cells = k * wsum lab r F cells := by
  unfold wsum
  rw [← List.sum_map_mul_left]
  refine congrArg List.sum (List.map_congr_left fun c _ => ?_)
  split <;> simp

theorem wsum_const (lab : Nat → Nat) (r : Nat) (k : Rat) (cells : List Nat) :
    wsum lab r (fun _ => k) cells = k * count lab r cells := by
  simpa [count] using wsum_mul_left lab r k (fun _ => 1) cells

theorem wsum_affine (lab : ℕ → ℕ) (r : ℕ) (f : ℕ → ℚ) (α β : ℚ) (cells : List ℕ) :
    wsum lab r (fun c => α * f c + β) cells = α * wsum lab r f cells + β * count lab r cells := by
  rw [wsum_add, wsum_const, wsum_mul_left]

theorem wsum_shift {lab : Nat → Nat} {r : Nat} {F G : Nat → Rat} {k : Rat} {cells : List Nat}
    (h : ∀ c ∈ cells, lab c = r → F c = G c + k) :
    wsum lab r F cells = wsum lab r G cells + k * count lab r cells := by
  rw [wsum_congr h, wsum_add, wsum_const]

/-- the relabelling `ih ↦ il` of `mergeStep` joins the two clusters and leaves the others alone -/
theorem wsum_relabel_il (lab : Nat → Nat) {il ih : Nat} (hne : il ≠ ih) (F : Nat → Rat) (cells : List Nat) :
    wsum (fun c => if lab c = ih then il else lab c) il F cells = wsum lab il F cells + wsum lab ih F cells := by
  unfold wsum
  rw [← List.sum_map_add]
  refine congrArg List.sum (List.map_congr_left fun c _ => ?_)
  by_cases h : lab c = ih
  · simp [h, hne.symm]
  · simp [h]

theorem wsum_relabel_other (lab : Nat → Nat) {il ih r : Nat} (h1 : r ≠ il) (h2 : r ≠ ih) (F : Nat → Rat)
    (cells : List Nat) :
    wsum (fun c => if lab c = ih then il else lab c) r F cells = wsum lab r F cells := by
  unfold wsum
  refine congrArg List.sum (List.map_congr_left fun c _ => ?_)
  by_cases h : lab c = ih
  · simp [h, h1.symm, h2.symm]
  · simp [h]

theorem count_eq_countP (lab : Nat → Nat) (r : Nat) (cells : List Nat) :
    count lab r cells = (cells.countP (lab · = r) : ℚ) := by
  induction cells with
  | nil => rfl
  | cons c cells ih =>
    rw [count, wsum_cons, ← count, ih, List.countP_cons, Nat.cast_add, add_comm]
    simp only [decide_eq_true_eq, Nat.cast_ite, Nat.cast_one, Nat.cast_zero]

theorem wsum_eq_finset (lab : ℕ → ℕ) (r : ℕ) (f : ℕ → ℚ) (n : ℕ) :
    wsum lab r f (List.range n) = ∑ c ∈ (Finset.range n).filter (fun c => lab c = r), f c := by
  -- `Finset.range n` is `List.range n` by definition
  rw [Finset.sum_filter]
  rfl

theorem count_eq_card (lab : ℕ → ℕ) (r : ℕ) (n : ℕ) :
    count lab r (List.range n) = (((Finset.range n).filter fun c => lab c = r).card : ℚ) := by
  unfold count
  rw [wsum_eq_finset]
  simp

theorem count_pos {lab : Nat → Nat} {r : Nat} {cells : List Nat} (h : ∃ c ∈ cells, lab c = r) :
    0 < count lab r cells := by
  rw [count_eq_countP, Nat.cast_pos, List.countP_pos_iff]
  simpa using h

/-- a cluster label is present in the image -/
def Present (st : St) (cells : List Nat) (r : Nat) : Prop := 0 < r ∧ ∃ c ∈ cells, st.lab c = r

/-- volumes are cell counts, and the first moments `pos · vol` are the sums of the cell centres, each
moved by the shift recorded for its initial cluster -/
structure SumInv (coord : Nat → Nat → Nat) (cells : List Nat) (st : St) : Prop where
  vol_eq : ∀ r, Present st cells r → st.vol r = count st.lab r cells
  pos_eq : ∀ r, Present st cells r → ∀ a,
    st.pos r a * st.vol r =
      wsum st.lab r (fun c => (coord c a : Rat) + 1 / 2 + (st.off (lab0 c) a : Rat) * (shape a : Rat)) cells

theorem sumInv_init {shape lab0 : Nat → Nat} {coord : Nat → Nat → Nat} {cells : List Nat} :
    SumInv shape lab0 coord cells (initSt coord lab0 cells) where
  vol_eq := fun _ _ => rfl
  pos_eq := fun r hr a =>
    (div_mul_cancel₀ _ (count_pos hr.2).ne').trans
      (wsum_congr fun c _ _ => by simp only [initSt, Int.cast_zero, zero_mul, add_zero])

theorem sumInv_step {shape lab0 : Nat → Nat} {coord : Nat → Nat → Nat} {cells : List Nat} {st : St}
    {es : List Edge} {e : Edge} (hel : e.l ∈ cells) (heh : e.h ∈ cells)
    (linv : LabInv lab0 st es) (inv : SumInv shape lab0 coord cells st) :
    SumInv shape lab0 coord cells (mergeStep shape lab0 st e) := by
  refine step_inv inv fun hm => ?_
  obtain ⟨hl, hh, hne⟩ := id hm
  have pl : Present st cells (st.lab e.l) := ⟨hl, e.l, hel, rfl⟩
  have ph : Present st cells (st.lab e.h) := ⟨hh, e.h, heh, rfl⟩
  have hv : st.vol (st.lab e.l) + st.vol (st.lab e.h) ≠ 0 := by
    rw [inv.vol_eq _ pl, inv.vol_eq _ ph]
    exact (add_pos (count_pos pl.2) (count_pos ph.2)).ne'
  have hlab : (mergeStep shape lab0 st e).lab = fun c => if st.lab c = st.lab e.h then st.lab e.l else st.lab c :=
    funext (step_lab hm)
  -- a label present after the step is not the upper one and was present before
  have hpres : ∀ r, Present (mergeStep shape lab0 st e) cells r → r ≠ st.lab e.h ∧ Present st cells r := by
    rintro r ⟨hr0, c, hc, hcr⟩
    rw [step_lab hm] at hcr
    split at hcr
    · exact ⟨hcr ▸ hne, hcr ▸ pl⟩
    · exact ⟨hcr ▸ ‹_›, hr0, c, hc, hcr⟩
  -- the summand of `pos_eq` moves by the shift on the upper cluster and stays as it is elsewhere
  have hoff : ∀ r, 0 < r → ∀ a, ∀ c ∈ cells, st.lab c = r →
      (coord c a : Rat) + 1 / 2 + ((mergeStep shape lab0 st e).off (lab0 c) a : Rat) * (shape a : Rat) =
        (coord c a : Rat) + 1 / 2 + (st.off (lab0 c) a : Rat) * (shape a : Rat) +
          if r = st.lab e.h then (shiftOf lab0 st e a : Rat) * (shape a : Rat) else 0 := by
    intro r hr a c _ hc
    rw [step_off hm, ← linv.cur_eq c ((linv.pos_iff c).mp (hc ▸ hr)), hc]
    split
    · push_cast; ring
    · rw [add_zero]
  refine ⟨fun r hr => ?_, fun r hr a => ?_⟩
  · obtain ⟨hrh, hp⟩ := hpres r hr
    rw [step_vol hm, hlab]
    by_cases hri : r = st.lab e.l
    · rw [if_pos (Or.inl hri), hri, count, wsum_relabel_il _ hne, inv.vol_eq _ pl, inv.vol_eq _ ph]; rfl
    · rw [if_neg (not_or.mpr ⟨hri, hrh⟩), count, wsum_relabel_other _ hri hrh, inv.vol_eq r hp]; rfl
  · obtain ⟨hrh, hp⟩ := hpres r hr
    rw [step_moment hm hv, hlab]
    by_cases hri : r = st.lab e.l
    · rw [if_pos (Or.inl hri), hri, wsum_relabel_il _ hne, wsum_shift (hoff _ hl a), wsum_shift (hoff _ hh a),
        if_neg hne, if_pos rfl, ← inv.pos_eq _ pl, ← inv.pos_eq _ ph, inv.vol_eq _ ph]
      ring
    · rw [if_neg (not_or.mpr ⟨hri, hrh⟩), wsum_relabel_other _ hri hrh, wsum_shift (hoff r hp.1 a), if_neg hrh,
        inv.pos_eq r hp]
      ring

theorem sumInv_final (coord : Nat → Nat → Nat) (cells : List Nat) (edges : List Edge)
    (hcells : ∀ e ∈ edges, e.l ∈ cells ∧ e.h ∈ cells) :
    SumInv shape lab0 coord cells (mergeLoop shape lab0 (initSt coord lab0 cells) edges) :=
  (mergeLoop_rec (P := fun st es => LabInv lab0 st es ∧ SumInv shape lab0 coord cells st)
    ⟨labInv_init, sumInv_init⟩
    fun _ _ e hp ⟨hl, hs⟩ =>
      have he := hcells e (hp.subset (by simp))
      ⟨labInv_step hl, sumInv_step he.1 he.2 hl hs⟩).2

/-! ### part 3: the tracked shifts agree with any consistent lift of the component -/

/-- `κ` is a consistent integer lift on the set `comp` of mask cells: constant on the initial
(in-box connected) clusters and dropping by one period across every periodic boundary pair -/
structure ConsistentLift (allEdges : List Edge) (comp : Nat → Prop) (κ : Nat → Nat → Int) : Prop where
  const : ∀ c1 c2, comp c1 → comp c2 → lab0 c1 = lab0 c2 → ∀ a, κ c1 a = κ c2 a
  drop : ∀ e ∈ allEdges, comp e.l → comp e.h → 0 < lab0 e.l → 0 < lab0 e.h →
    ∀ a, κ e.h a = κ e.l a - delta a e.ax

/-- `off − κ` is constant on the cells of `comp` that carry one label: the shifts recorded for the initial clusters
of a merged cluster unwrap it the way `κ` does, up to whole periods -/
def LiftInv (comp : Nat → Prop) (κ : Nat → Nat → Int) (st : St) : Prop :=
  ∀ c1 c2, comp c1 → comp c2 → 0 < lab0 c1 → 0 < lab0 c2 → st.lab c1 = st.lab c2 →
    ∀ a, st.off (lab0 c1) a - κ c1 a = st.off (lab0 c2) a - κ c2 a

theorem liftInv_init {lab0 : Nat → Nat} {coord : Nat → Nat → Nat} {cells : List Nat} {allEdges : List Edge}
    {comp : Nat → Prop} {κ : Nat → Nat → Int} (hκ : ConsistentLift lab0 allEdges comp κ) :
    LiftInv lab0 comp κ (initSt coord lab0 cells) := by
  intro c1 c2 h1 h2 _ _ heq a
  show (0 : Int) - κ c1 a = 0 - κ c2 a
  rw [hκ.const c1 c2 h1 h2 heq a]

theorem liftInv_step {shape lab0 : Nat → Nat} {allEdges : List Edge} {comp : Nat → Prop} {κ : Nat → Nat → Int}
    (hκ : ConsistentLift lab0 allEdges comp κ) {st : St} {es : List Edge} {e : Edge} (he : e ∈ allEdges)
    (hclosed : ∀ c c', comp c → 0 < lab0 c → 0 < lab0 c' → st.lab c = st.lab c' → comp c')
    (linv : LabInv lab0 st es) (inv : LiftInv lab0 comp κ st) :
    LiftInv lab0 comp κ (mergeStep shape lab0 st e) := by
  refine step_inv inv fun hm => ?_
  have hl0 : 0 < lab0 e.l := (linv.pos_iff e.l).mp hm.1
  have hh0 : 0 < lab0 e.h := (linv.pos_iff e.h).mp hm.2.1
  -- a cell of the upper cluster, once shifted, agrees with the cells of the lower cluster: go through the pair
  have key : ∀ c1 c2, comp c1 → comp c2 → 0 < lab0 c1 → 0 < lab0 c2 → st.lab c1 = st.lab e.h →
      st.lab c2 = st.lab e.l → ∀ a,
        st.off (lab0 c1) a + shiftOf lab0 st e a - κ c1 a = st.off (lab0 c2) a - κ c2 a := by
    intro c1 c2 p1 p2 m1 m2 hc1 hc2 a
    have ph : comp e.h := hclosed c1 e.h p1 m1 hh0 hc1
    have pl : comp e.l := hclosed c2 e.l p2 m2 hl0 hc2
    have i1 := inv c1 e.h p1 ph m1 hh0 hc1 a
    have i2 := inv c2 e.l p2 pl m2 hl0 hc2 a
    have hd := hκ.drop e he pl ph hl0 hh0 a
    simp only [shiftOf]
    omega
  intro c1 c2 p1 p2 m1 m2 heq a
  rw [step_lab hm, step_lab hm] at heq
  rw [step_off hm, step_off hm, ← linv.cur_eq c1 m1, ← linv.cur_eq c2 m2]
  by_cases hc1 : st.lab c1 = st.lab e.h <;> by_cases hc2 : st.lab c2 = st.lab e.h <;>
    simp only [hc1, hc2, if_true, if_false] at heq ⊢
  · have := inv c1 c2 p1 p2 m1 m2 (hc1.trans hc2.symm) a
    omega
  · exact key c1 c2 p1 p2 m1 m2 hc1 heq.symm a
  · exact (key c2 c1 p2 p1 m2 m1 hc2 heq a).symm
  · exact inv c1 c2 p1 p2 m1 m2 heq a

theorem liftInv_final (coord : Nat → Nat → Nat) (cells : List Nat) (edges : List Edge) (c0 : Nat)
    (κ : Nat → Nat → Int) (hκ : ConsistentLift lab0 edges (Conn lab0 edges c0) κ) :
    LiftInv lab0 (Conn lab0 edges c0) κ (mergeLoop shape lab0 (initSt coord lab0 cells) edges) :=
  (mergeLoop_rec (P := fun st es => LabInv lab0 st es ∧ LiftInv lab0 (Conn lab0 edges c0) κ st)
    ⟨labInv_init, liftInv_init hκ⟩
    fun _ _ _ hp ⟨hl, hi⟩ =>
      ⟨labInv_step hl, liftInv_step hκ (hp.subset (by simp))
        (fun c c' pc m m' heq => pc.trans _ _ _ (Conn.mono
          (fun x hx => hp.subset (List.mem_append_left _ hx)) (hl.conn_of_eq c c' m m' heq))) hl hi⟩).2

end DV.MergeInv
