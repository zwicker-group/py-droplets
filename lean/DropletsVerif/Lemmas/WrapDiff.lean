/-
  The periodic difference `wrapDiff` of Model/Render.lean (py-pde's `(x + L/2) % L − L/2`), over ℚ:
  it is the one number of `[-L/2, L/2)` that differs from `x` by whole periods
  (`wrapDiff_eq_sub_floor`, `wrapDiff_range`, `wrapDiff_unique`).
-/
import DropletsVerif.Model.Render
import Mathlib.Tactic

namespace DV.WrapDiff
open DV.Render

theorem int_lt_of_mul_lt {L : ℚ} (hL : 0 < L) {a b : ℤ} (h : (a : ℚ) * L < b * L) : a < b := by
  exact_mod_cast lt_of_mul_lt_mul_right h hL.le

theorem wrapDiff_eq_fract (L x : ℚ) (hL : L ≠ 0) :
    wrapDiff L x = L * Int.fract ((x + L / 2) / L) - L / 2 := by
  unfold wrapDiff fmod
  rw [← Int.self_sub_floor, mul_sub, mul_div_cancel₀ _ hL]
  rfl

theorem wrapDiff_periodic (L x : ℚ) (hL : L ≠ 0) (m : ℤ) : wrapDiff L (x + m * L) = wrapDiff L x := by
  have h1 : (x + m * L + L / 2) / L = (x + L / 2) / L + m := by field_simp; ring
  rw [wrapDiff_eq_fract L _ hL, wrapDiff_eq_fract L _ hL, h1, Int.fract_add_intCast]

theorem wrapDiff_range (L x : ℚ) (hL : 0 < L) : -(L / 2) ≤ wrapDiff L x ∧ wrapDiff L x < L / 2 := by
  rw [wrapDiff_eq_fract L x hL.ne']
  have h1 := mul_nonneg hL.le (Int.fract_nonneg ((x + L / 2) / L))
  have h2 := mul_lt_of_lt_one_right hL (Int.fract_lt_one ((x + L / 2) / L))
  exact ⟨by linarith only [h1], by linarith only [h2]⟩

theorem wrapDiff_eq_sub_floor (L x : ℚ) : wrapDiff L x = x - ((x + L / 2) / L).floor * L := by
  unfold wrapDiff fmod; ring

theorem wrapDiff_congr (L x : ℚ) : ∃ k : ℤ, wrapDiff L x = x - k * L := ⟨_, wrapDiff_eq_sub_floor L x⟩

theorem floor_eq_of_wrap {L x : ℚ} (hL : 0 < L) (k : ℤ) (h1 : -(L / 2) ≤ x - k * L) (h2 : x - k * L < L / 2) :
    ((x + L / 2) / L).floor = k := by
  have hfl : ∀ q : ℚ, q.floor = ⌊q⌋ := fun _ => rfl
  rw [hfl, Int.floor_eq_iff, le_div_iff₀ hL, div_lt_iff₀ hL]
  exact ⟨by linarith only [h1], by linarith only [h2]⟩

theorem int_eq_zero_of_range {L x y : ℚ} {k : ℤ} (hx1 : -(L / 2) ≤ x) (hx2 : x < L / 2)
    (hy1 : -(L / 2) ≤ y) (hy2 : y < L / 2) (h : x = y + k * L) : k = 0 := by
  have hL : 0 < L := by linarith only [hx1, hx2]
  rw [← floor_eq_of_wrap hL k (x := x) (by linarith only [hy1, h]) (by linarith only [hy2, h])]
  exact floor_eq_of_wrap hL 0 (by simpa using hx1) (by simpa using hx2)

theorem wrapDiff_unique (L x y : ℚ) (hL : 0 < L) (k : ℤ) (hy : y = x - k * L) (h1 : -(L / 2) ≤ y) (h2 : y < L / 2) :
    wrapDiff L x = y := by
  rw [wrapDiff_eq_sub_floor, floor_eq_of_wrap hL k (hy ▸ h1) (hy ▸ h2), hy]

theorem wrapDiff_of_mem (L x : ℚ) (hL : 0 < L) (h1 : -(L / 2) ≤ x) (h2 : x < L / 2) : wrapDiff L x = x :=
  wrapDiff_unique L x x hL 0 (by simp) h1 h2

theorem wrapDiff_eq_of_abs_lt {L w x : ℚ} (hL : 0 < L) (t : ℤ) (hx : x = w + t * L) (h : |x| < L / 2) :
    wrapDiff L w = x :=
  wrapDiff_unique L w x hL (-t) (by rw [hx]; push_cast; ring) (by linarith [(abs_lt.mp h).1]) (abs_lt.mp h).2

theorem wrapDiff_near {L w : ℚ} (hL : 0 < L) (hw : |w| < L) :
    ∃ t : ℤ, -1 ≤ t ∧ t ≤ 1 ∧ wrapDiff L w = w + t * L := by
  obtain ⟨k, hk⟩ := wrapDiff_congr L w
  obtain ⟨r1, r2⟩ := wrapDiff_range L w hL
  obtain ⟨w1, w2⟩ := abs_lt.mp hw
  rw [hk] at r1 r2
  have h1 : -2 < -k := int_lt_of_mul_lt hL (by push_cast; linarith only [r1, w2, hL])
  have h2 : -k < 2 := int_lt_of_mul_lt hL (by push_cast; linarith only [r2, w1, hL])
  exact ⟨-k, by omega, by omega, by rw [hk]; push_cast; ring⟩

theorem exists_shift_into {L y : ℚ} (h1 : -L ≤ y) (h2 : y ≤ 2 * L) :
    ∃ k : ℤ, -1 ≤ k ∧ k ≤ 1 ∧ 0 ≤ y + k * L ∧ y + k * L ≤ L := by
  rcases lt_or_ge y 0 with h | h
  · exact ⟨1, by omega, by omega, by push_cast; linarith, by push_cast; linarith⟩
  rcases le_or_gt y L with h' | h'
  · exact ⟨0, by omega, by omega, by push_cast; linarith, by push_cast; linarith⟩
  · exact ⟨-1, by omega, by omega, by push_cast; linarith, by push_cast; linarith⟩

end DV.WrapDiff
