/-
  Packing and covering bounds for lattice cells and a ball (Lebesgue measure; pure Mathlib).  The cells of a rectangular
  lattice are the half-open boxes `⌊(y − o)/h⌋ = n` (`mem_cell_centre`): pairwise disjoint, covering the space, each within
  ρ = half the cell diagonal of its centre.  Packing: the cells whose centres lie within `R` of a point lie inside the ball of
  radius `R + ρ`, so their number times the cell volume is at most its volume (`card_mul_cell_le`).  Covering: a set of cells
  that holds all of those covers the ball of radius `R − ρ`, whose volume is then at most (number of cells) × (cell volume)
  (`ball_le_card_mul_cell`).
-/
import Mathlib.MeasureTheory.Measure.Lebesgue.VolumeOfBalls

open MeasureTheory Metric Set WithLp

namespace DV.Lattice
variable {d : ℕ}

def cell (x h : Fin d → ℝ) : Set (Fin d → ℝ) := Set.pi univ fun a => Ico (x a - h a / 2) (x a + h a / 2)

theorem volume_cell (x h : Fin d → ℝ) (hh : ∀ a, 0 ≤ h a) : volume (cell x h) = ENNReal.ofReal (∏ a, h a) := by
  unfold cell
  rw [Real.volume_pi_Ico, ENNReal.ofReal_prod_of_nonneg (fun a _ => hh a)]
  congr 1; funext a; congr 1; ring

/-- centre of the lattice cell with index `n` -/
noncomputable def centre (o h : Fin d → ℝ) (n : Fin d → ℤ) : Fin d → ℝ := fun a => o a + ((n a : ℝ) + 1 / 2) * h a

theorem mem_cell_centre (o h : Fin d → ℝ) (hh : ∀ a, 0 < h a) (n : Fin d → ℤ) (y : Fin d → ℝ) :
    y ∈ cell (centre o h n) h ↔ ∀ a, ⌊(y a - o a) / h a⌋ = n a := by
  simp only [cell, centre, Set.mem_univ_pi, mem_Ico]
  refine forall_congr' fun a => ?_
  rw [Int.floor_eq_iff, le_div_iff₀ (hh a), div_lt_iff₀ (hh a)]
  constructor <;> rintro ⟨h1, h2⟩ <;> constructor <;> linarith

theorem cells_disjoint (o h : Fin d → ℝ) (hh : ∀ a, 0 < h a) {n m : Fin d → ℤ} (hnm : n ≠ m) :
    Disjoint (cell (centre o h n) h) (cell (centre o h m) h) :=
  Set.disjoint_left.mpr fun y hn hm => hnm <| funext fun a =>
    ((mem_cell_centre o h hh n y).mp hn a).symm.trans ((mem_cell_centre o h hh m y).mp hm a)

theorem exists_cell (o h : Fin d → ℝ) (hh : ∀ a, 0 < h a) (y : Fin d → ℝ) : ∃ n : Fin d → ℤ, y ∈ cell (centre o h n) h :=
  ⟨_, (mem_cell_centre o h hh _ y).mpr fun _ => rfl⟩

theorem measurable_cell (x h : Fin d → ℝ) : MeasurableSet (cell x h) :=
  MeasurableSet.univ_pi fun _ => measurableSet_Ico

/-- half the cell diagonal -/
noncomputable def halfDiag (h : Fin d → ℝ) : ℝ := ‖(toLp 2 (fun a => h a / 2) : EuclideanSpace ℝ (Fin d))‖

theorem halfDiag_nonneg (h : Fin d → ℝ) : 0 ≤ halfDiag h := norm_nonneg _

theorem cell_near (x h : Fin d → ℝ) {y : Fin d → ℝ} (hy : y ∈ cell x h) :
    ‖(toLp 2 y : EuclideanSpace ℝ (Fin d)) - toLp 2 x‖ ≤ halfDiag h := by
  rw [halfDiag, EuclideanSpace.norm_eq, EuclideanSpace.norm_eq]
  apply Real.sqrt_le_sqrt
  apply Finset.sum_le_sum
  intro a _
  have h1 := hy a (mem_univ a)
  simp only [mem_Ico] at h1
  simp only [PiLp.sub_apply, Real.norm_eq_abs, sq_abs]
  exact sq_le_sq' (by linarith [h1.1]) (by linarith [h1.2])

theorem card_mul_cell_le (S : Finset (Fin d → ℤ)) (o h c : Fin d → ℝ) (hh : ∀ a, 0 < h a) (R : ℝ)
    (hS : ∀ n ∈ S, ‖(toLp 2 (centre o h n) : EuclideanSpace ℝ (Fin d)) - toLp 2 c‖ < R) :
    (S.card : ENNReal) * ENNReal.ofReal (∏ a, h a) ≤
      volume (ball (toLp 2 c : EuclideanSpace ℝ (Fin d)) (R + ‖(toLp 2 (fun a => h a / 2) : EuclideanSpace ℝ (Fin d))‖)) := by
  set U : Set (Fin d → ℝ) := ⋃ n ∈ S, cell (centre o h n) h with hU
  have hUm : MeasurableSet U := Finset.measurableSet_biUnion _ fun n _ => measurable_cell _ _
  have hvolU : volume U = (S.card : ENNReal) * ENNReal.ofReal (∏ a, h a) := by
    rw [hU, measure_biUnion_finset]
    · simp only [volume_cell _ _ (fun a => (hh a).le), Finset.sum_const, nsmul_eq_mul]
    · intro n _ m _ hnm
      exact cells_disjoint o h hh hnm
    · intro n _; exact measurable_cell _ _
  rw [← hvolU, ← (PiLp.volume_preserving_ofLp (Fin d)).measure_preimage hUm.nullMeasurableSet]
  apply measure_mono
  intro y hy
  simp only [mem_preimage, hU, mem_iUnion] at hy
  obtain ⟨n, hn, hyn⟩ := hy
  rw [mem_ball, dist_eq_norm, ← halfDiag]
  have h1 : ‖y - toLp 2 (centre o h n)‖ ≤ _ := cell_near (centre o h n) h hyn
  have := norm_sub_le_norm_sub_add_norm_sub y (toLp 2 (centre o h n)) (toLp 2 c)
  linarith [hS n hn]

theorem ball_le_card_mul_cell (T : Finset (Fin d → ℤ)) (o h c : Fin d → ℝ) (hh : ∀ a, 0 < h a) (R : ℝ)
    (hT : ∀ n : Fin d → ℤ, ‖(toLp 2 (centre o h n) : EuclideanSpace ℝ (Fin d)) - toLp 2 c‖ < R → n ∈ T) :
    volume (ball (toLp 2 c : EuclideanSpace ℝ (Fin d)) (R - halfDiag h)) ≤ (T.card : ENNReal) * ENNReal.ofReal (∏ a, h a) := by
  set U : Set (Fin d → ℝ) := ⋃ n ∈ T, cell (centre o h n) h with hU
  have hUm : MeasurableSet U := Finset.measurableSet_biUnion _ fun n _ => measurable_cell _ _
  have hvolU : volume U ≤ (T.card : ENNReal) * ENNReal.ofReal (∏ a, h a) := by
    rw [hU]
    refine le_trans (measure_biUnion_finset_le _ _) ?_
    simp only [volume_cell _ _ (fun a => (hh a).le), Finset.sum_const, nsmul_eq_mul, le_refl]
  refine le_trans ?_ hvolU
  rw [← (PiLp.volume_preserving_ofLp (Fin d)).measure_preimage hUm.nullMeasurableSet]
  apply measure_mono
  intro y hy
  rw [mem_ball, dist_eq_norm] at hy
  simp only [mem_preimage, hU, mem_iUnion]
  obtain ⟨n, hn⟩ := exists_cell o h hh (ofLp y)
  refine ⟨n, hT n ?_, hn⟩
  have h1 : ‖y - toLp 2 (centre o h n)‖ ≤ halfDiag h := cell_near (centre o h n) h hn
  have := norm_sub_le_norm_sub_add_norm_sub (toLp 2 (centre o h n)) y (toLp 2 c)
  rw [norm_sub_rev _ y] at this
  linarith

/-! ### the two bounds in real numbers

`hκ` says that balls have volume `κ rᵈ`.  It is a hypothesis so that Mathlib's Gamma-function formula for general `d` stays out
of the statements; a caller supplies it per dimension (`volume_ball_fin_one` below, `EuclideanSpace.volume_ball_fin_two`,
`EuclideanSpace.volume_ball_fin_three`). -/

section real
variable {κ : ℝ} (hκ : ∀ (x : EuclideanSpace ℝ (Fin d)) (r : ℝ), volume (ball x r) = ENNReal.ofReal r ^ d * ENNReal.ofReal κ)
include hκ

theorem volume_ball_real (x : EuclideanSpace ℝ (Fin d)) {r : ℝ} (hr : 0 ≤ r) : volume (ball x r) = ENNReal.ofReal (r ^ d * κ) := by
  rw [hκ, ENNReal.ofReal_mul (pow_nonneg hr d), ENNReal.ofReal_pow hr]

omit hκ in
theorem card_mul_ofReal (n : ℕ) (p : ℝ) : (n : ENNReal) * ENNReal.ofReal p = ENNReal.ofReal (n * p) := by
  rw [ENNReal.ofReal_mul (Nat.cast_nonneg _), ENNReal.ofReal_natCast]

theorem card_vol_le (hκ0 : 0 ≤ κ) (S : Finset (Fin d → ℤ)) (o h c : Fin d → ℝ) (hh : ∀ a, 0 < h a) (R : ℝ) (hR : 0 ≤ R)
    (hS : ∀ n ∈ S, ‖(toLp 2 (centre o h n) : EuclideanSpace ℝ (Fin d)) - toLp 2 c‖ < R) :
    (S.card : ℝ) * ∏ a, h a ≤ (R + halfDiag h) ^ d * κ := by
  have hρ : 0 ≤ R + halfDiag h := add_nonneg hR (halfDiag_nonneg h)
  have hb : _ ≤ volume (ball (toLp 2 c : EuclideanSpace ℝ (Fin d)) (R + halfDiag h)) := card_mul_cell_le S o h c hh R hS
  rw [card_mul_ofReal, volume_ball_real hκ _ hρ] at hb
  exact (ENNReal.ofReal_le_ofReal_iff (mul_nonneg (pow_nonneg hρ d) hκ0)).mp hb

theorem card_vol_ge (T : Finset (Fin d → ℤ)) (o h c : Fin d → ℝ) (hh : ∀ a, 0 < h a) (R : ℝ) (hR : 0 ≤ R - halfDiag h)
    (hT : ∀ n : Fin d → ℤ, ‖(toLp 2 (centre o h n) : EuclideanSpace ℝ (Fin d)) - toLp 2 c‖ < R → n ∈ T) :
    (R - halfDiag h) ^ d * κ ≤ (T.card : ℝ) * ∏ a, h a := by
  have hb := ball_le_card_mul_cell T o h c hh R hT
  rw [card_mul_ofReal, volume_ball_real hκ _ hR] at hb
  exact (ENNReal.ofReal_le_ofReal_iff
    (mul_nonneg (Nat.cast_nonneg _) (Finset.prod_nonneg fun a _ => (hh a).le))).mp hb

end real

theorem volume_ball_fin_one (x : EuclideanSpace ℝ (Fin 1)) (r : ℝ) :
    volume (ball x r) = ENNReal.ofReal r ^ 1 * ENNReal.ofReal 2 := by
  norm_num [InnerProductSpace.volume_ball_of_dim_odd (k := 0) (by simp) x]

end DV.Lattice
