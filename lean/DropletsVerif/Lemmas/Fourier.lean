/-
  Real analysis used by Props/C13.lean (pure Mathlib, nothing generated).
  * Trigonometric polynomials `tp` without constant term: the modes are orthogonal on [0, 2π], hence zero mean and Parseval,
    hence the area π R² (1 + Σ (a_n² + b_n²)/2) enclosed by the polar curve r(φ) = R (1 + Σ_n a_n sin nφ + b_n cos nφ).
  * Curvature of the plane curve t ↦ r(t)(cos t, sin t), mean curvature of a surface of revolution and of a radial graph.  All
    are quotients `N / (D √g)` of polynomials in the radius function and its derivatives; their first order around the circle /
    sphere (where every derivative vanishes) comes from the one rule `hasDerivAt_div_mul_sqrt`, for ANY differentiable family of
    such data; the statements about `r = R(1 + εu)` are the instances for the affine family.
  * Zonal harmonics have zero mean, from their eigen-equation alone; the perimeter of a perturbed circle has no first-order term.
-/
import Mathlib.Analysis.SpecialFunctions.Integrals.Basic

namespace DV.Fourier
open Real intervalIntegral Topology

theorem integrable_period {f : ℝ → ℝ} (h : Continuous f) : IntervalIntegrable f MeasureTheory.volume 0 (2 * π) :=
  h.intervalIntegrable _ _

theorem continuous_of_hasDerivAt {f f' : ℝ → ℝ} (h : ∀ t, HasDerivAt f (f' t) t) : Continuous f :=
  continuous_iff_continuousAt.mpr fun t => (h t).continuousAt

-- stated for continuous functions, so that integrability is settled here
theorem integral_mul_add {f g h : ℝ → ℝ} (hf : Continuous f) (hg : Continuous g) (hh : Continuous h) :
    ∫ x in (0:ℝ)..(2*π), f x * (g x + h x) = (∫ x in (0:ℝ)..(2*π), f x * g x) + ∫ x in (0:ℝ)..(2*π), f x * h x := by
  simp_rw [mul_add]
  exact integral_add (integrable_period (by fun_prop)) (integrable_period (by fun_prop))

theorem integral_add_sq {f g : ℝ → ℝ} (hf : Continuous f) (hg : Continuous g) :
    ∫ x in (0:ℝ)..(2*π), (f x + g x) ^ 2 =
      (∫ x in (0:ℝ)..(2*π), f x * f x) + 2 * (∫ x in (0:ℝ)..(2*π), f x * g x) + ∫ x in (0:ℝ)..(2*π), g x ^ 2 := by
  have e : ∀ x, (f x + g x) ^ 2 = f x * f x + (2 * (f x * g x) + g x ^ 2) := fun x => by ring
  simp_rw [e]
  rw [integral_add (integrable_period (by fun_prop)) (integrable_period (by fun_prop)),
    integral_add (integrable_period (by fun_prop)) (integrable_period (by fun_prop)), integral_const_mul, add_assoc]

theorem int_sin_int (k : ℤ) : ∫ x in (0:ℝ)..(2*π), sin (k * x) = 0 := by
  rcases eq_or_ne k 0 with rfl | hk
  · simp
  · rw [integral_comp_mul_left (fun x => sin x) (Int.cast_ne_zero.mpr hk), integral_sin, mul_zero, cos_int_mul_two_pi, cos_zero,
      sub_self, smul_zero]

theorem int_cos_int (k : ℤ) : ∫ x in (0:ℝ)..(2*π), cos (k * x) = if k = 0 then 2 * π else 0 := by
  split_ifs with hk
  · simp [hk]
  · have h := sin_add_int_mul_two_pi 0 k
    rw [zero_add] at h
    rw [integral_comp_mul_left (fun x => cos x) (Int.cast_ne_zero.mpr hk), integral_cos, mul_zero, h, sub_self, smul_zero]

theorem int_cos_zero : ∫ x in (0:ℝ)..(2*π), cos ((0:ℤ) * x) = 2 * π := by simp

theorem int_mode_mul_mode (p q : ℝ × ℝ) (m n : ℕ) (hn : 1 ≤ n) :
    ∫ x in (0:ℝ)..(2*π), (p.1 * sin (m * x) + p.2 * cos (m * x)) * (q.1 * sin (n * x) + q.2 * cos (n * x)) =
      if m = n then π * (p.1 * q.1 + p.2 * q.2) else 0 := by
  -- product to sum: of the four terms only the cosine of the difference frequency `m − n` can have a non-zero integral
  have h : ∀ x : ℝ, (p.1 * sin (m * x) + p.2 * cos (m * x)) * (q.1 * sin (n * x) + q.2 * cos (n * x)) =
      ((p.1 * q.1 + p.2 * q.2) / 2 * cos ((((m:ℤ) - n : ℤ) : ℝ) * x) + (p.1 * q.2 - p.2 * q.1) / 2 * sin ((((m:ℤ) - n : ℤ) : ℝ) * x)) +
      ((p.2 * q.2 - p.1 * q.1) / 2 * cos ((((m:ℤ) + n : ℤ) : ℝ) * x) + (p.1 * q.2 + p.2 * q.1) / 2 * sin ((((m:ℤ) + n : ℤ) : ℝ) * x)) := by
    intro x
    push_cast
    rw [sub_mul (m:ℝ) n x, add_mul (m:ℝ) n x, cos_sub, cos_add, sin_sub, sin_add]; ring
  simp_rw [h]
  rw [integral_add (integrable_period (by fun_prop)) (integrable_period (by fun_prop)),
    integral_add (integrable_period (by fun_prop)) (integrable_period (by fun_prop)),
    integral_add (integrable_period (by fun_prop)) (integrable_period (by fun_prop)), integral_const_mul, integral_const_mul,
    integral_const_mul, integral_const_mul, int_sin_int, int_sin_int, int_cos_int, int_cos_int, if_neg (by omega : (m:ℤ) + n ≠ 0)]
  simp only [sub_eq_zero, Nat.cast_inj]
  split_ifs <;> ring

/-! ### trigonometric polynomials -/

/-- `Σ_i (a_i sin (s+i)φ + b_i cos (s+i)φ)`: the list holds the amplitude pairs of consecutive modes, the first being mode `s` -/
noncomputable def tp : List (ℝ × ℝ) → ℕ → ℝ → ℝ
  | [], _, _ => 0
  | p :: ps, s, φ => (p.1 * sin (s * φ) + p.2 * cos (s * φ)) + tp ps (s + 1) φ

/-- weighted variant: mode `n` multiplied by `w n` -/
noncomputable def tpw (w : ℕ → ℝ) : List (ℝ × ℝ) → ℕ → ℝ → ℝ
  | [], _, _ => 0
  | p :: ps, s, φ => w s * (p.1 * sin (s * φ) + p.2 * cos (s * φ)) + tpw w ps (s + 1) φ

/-- coefficients of the derivative -/
def dmap : ℕ → List (ℝ × ℝ) → List (ℝ × ℝ)
  | _, [] => []
  | s, p :: ps => (-(s : ℝ) * p.2, (s : ℝ) * p.1) :: dmap (s + 1) ps

theorem tp_nil (s : ℕ) (φ : ℝ) : tp [] s φ = 0 := rfl
theorem tp_cons (p : ℝ × ℝ) (ps : List (ℝ × ℝ)) (s : ℕ) (φ : ℝ) :
    tp (p :: ps) s φ = (p.1 * sin (s * φ) + p.2 * cos (s * φ)) + tp ps (s + 1) φ := rfl

theorem tp_continuous (ps : List (ℝ × ℝ)) (s : ℕ) : Continuous (tp ps s) := by
  induction ps generalizing s with
  | nil => exact continuous_const
  | cons p ps ih =>
    have := ih (s + 1)
    show Continuous fun φ => tp (p :: ps) s φ
    simp_rw [tp_cons]
    fun_prop

/-- `Σ (|a| + |b|)`, which bounds `|tp|` -/
noncomputable def l1 (ps : List (ℝ × ℝ)) : ℝ := (ps.map fun p => |p.1| + |p.2|).sum

theorem tp_bound (ps : List (ℝ × ℝ)) (s : ℕ) (x : ℝ) : |tp ps s x| ≤ l1 ps := by
  induction ps generalizing s with
  | nil => simp [tp_nil, l1]
  | cons p ps ih =>
    have h1 : |p.1 * sin (s * x)| ≤ |p.1| := by
      rw [abs_mul]; exact mul_le_of_le_one_right (abs_nonneg _) (abs_sin_le_one _)
    have h2 : |p.2 * cos (s * x)| ≤ |p.2| := by
      rw [abs_mul]; exact mul_le_of_le_one_right (abs_nonneg _) (abs_cos_le_one _)
    show |p.1 * sin (s * x) + p.2 * cos (s * x) + tp ps (s + 1) x| ≤ |p.1| + |p.2| + l1 ps
    linarith [abs_add_three (p.1 * sin (s * x)) (p.2 * cos (s * x)) (tp ps (s + 1) x), ih (s + 1)]

def sqsum (ps : List (ℝ × ℝ)) : ℝ := (ps.map fun p => p.1 ^ 2 + p.2 ^ 2).sum

theorem int_mode_mul_tp (q : ℝ × ℝ) (ps : List (ℝ × ℝ)) {m s : ℕ} (h : m < s) :
    ∫ x in (0:ℝ)..(2*π), (q.1 * sin (m * x) + q.2 * cos (m * x)) * tp ps s x = 0 := by
  induction ps generalizing s with
  | nil => simp [tp_nil]
  | cons p ps ih =>
    simp_rw [tp_cons]
    rw [integral_mul_add (by fun_prop) (by fun_prop) (tp_continuous ps (s + 1)), int_mode_mul_mode q p m s (by omega), if_neg h.ne,
      ih (by omega), add_zero]

theorem tp_orth (ps : List (ℝ × ℝ)) : ∀ (s : ℕ), 1 ≤ s →
    (∫ x in (0:ℝ)..(2*π), tp ps s x = 0) ∧
    (∀ m : ℕ, 1 ≤ m → m < s → (∫ x in (0:ℝ)..(2*π), sin (m * x) * tp ps s x = 0) ∧
      (∫ x in (0:ℝ)..(2*π), cos (m * x) * tp ps s x = 0)) := by
  intro s hs
  refine ⟨?_, fun m _ hms => ⟨?_, ?_⟩⟩
  -- the constant `1` is the mode `m = 0` with the coefficients `(0, 1)`
  · simpa using int_mode_mul_tp (0, 1) ps hs
  · simpa using int_mode_mul_tp (1, 0) ps hms
  · simpa using int_mode_mul_tp (0, 1) ps hms

/-- Parseval for real trigonometric polynomials without constant term -/
theorem tp_sq (ps : List (ℝ × ℝ)) : ∀ (s : ℕ), 1 ≤ s →
    ∫ x in (0:ℝ)..(2*π), tp ps s x ^ 2 = π * sqsum ps := by
  induction ps with
  | nil => intro s _; simp [tp_nil, sqsum]
  | cons p ps ih =>
    intro s hs
    -- the square of `mode + rest`: the cross term vanishes because the rest starts above the mode
    simp_rw [tp_cons]
    rw [integral_add_sq (by fun_prop) (tp_continuous ps (s + 1)), int_mode_mul_mode p p s s hs, if_pos rfl,
      int_mode_mul_tp p ps s.lt_succ_self, ih (s + 1) (by omega)]
    simp [sqsum]; ring

/-- area enclosed by the polar curve r(φ) = R (1 + tp φ) -/
theorem polar_area (R : ℝ) (ps : List (ℝ × ℝ)) :
    ∫ x in (0:ℝ)..(2*π), (R * (1 + tp ps 1 x)) ^ 2 / 2 = π * R ^ 2 * (1 + sqsum ps / 2) := by
  have hc := tp_continuous ps 1
  have : ∀ x, (R * (1 + tp ps 1 x)) ^ 2 / 2 = R ^ 2 / 2 * ((1 + 2 * tp ps 1 x) + tp ps 1 x ^ 2) := by
    intro x; ring
  simp_rw [this]
  rw [intervalIntegral.integral_const_mul,
    intervalIntegral.integral_add (integrable_period (by fun_prop)) (integrable_period (by fun_prop)),
    intervalIntegral.integral_add (integrable_period (by fun_prop)) (integrable_period (by fun_prop)),
    intervalIntegral.integral_const_mul, (tp_orth ps 1 le_rfl).1, tp_sq ps 1 le_rfl]
  simp; ring

theorem tp_hasDerivAt (ps : List (ℝ × ℝ)) (s : ℕ) (φ : ℝ) : HasDerivAt (tp ps s) (tp (dmap s ps) s φ) φ := by
  induction ps generalizing s with
  | nil => exact hasDerivAt_const φ 0
  | cons p ps ih =>
    have hm : HasDerivAt (fun t : ℝ => (s : ℝ) * t) s φ := by simpa using (hasDerivAt_id φ).const_mul (s : ℝ)
    exact (((hm.sin.const_mul p.1).fun_add (hm.cos.const_mul p.2)).fun_add (ih (s + 1))).congr_deriv
      (by simp only [dmap, tp]; ring)

/-- `u + u″ = −Σ_n (n² − 1)·mode_n` -/
theorem tp_add_dd (ps : List (ℝ × ℝ)) (s : ℕ) (φ : ℝ) :
    tp ps s φ + tp (dmap s (dmap s ps)) s φ = -tpw (fun n => (n : ℝ) * n - 1) ps s φ := by
  induction ps generalizing s with
  | nil => simp [tp, tpw, dmap]
  | cons p ps ih => simp only [dmap, tp, tpw]; linear_combination ih (s + 1)

theorem tp_smul (c : ℝ) (ps : List (ℝ × ℝ)) (s : ℕ) (φ : ℝ) :
    tp (ps.map fun p => (c * p.1, c * p.2)) s φ = c * tp ps s φ := by
  induction ps generalizing s with
  | nil => simp [tp]
  | cons p ps ih => simp only [List.map_cons, tp, ih]; ring

theorem tpw_smul (w : ℕ → ℝ) (c : ℝ) (ps : List (ℝ × ℝ)) (s : ℕ) (φ : ℝ) :
    tpw w (ps.map fun p => (c * p.1, c * p.2)) s φ = c * tpw w ps s φ := by
  induction ps generalizing s with
  | nil => simp [tpw]
  | cons p ps ih => simp only [List.map_cons, tpw, ih]; ring

/-! ### first order at `ε = 0` -/

theorem quad_deriv (a b c : ℝ) : HasDerivAt (fun ε : ℝ => a + b * ε + c * ε ^ 2) b 0 := by
  simpa using (((hasDerivAt_id (0:ℝ)).const_mul b).const_add a).fun_add (((hasDerivAt_id (0:ℝ)).fun_pow 2).const_mul c)

theorem cubic_deriv (a b c d : ℝ) : HasDerivAt (fun ε : ℝ => a + b * ε + c * ε ^ 2 + d * ε ^ 3) b 0 := by
  simpa using (quad_deriv a b c).fun_add (((hasDerivAt_id (0:ℝ)).fun_pow 3).const_mul d)

theorem affine_deriv (a b : ℝ) : HasDerivAt (fun ε : ℝ => a * (1 + ε * b)) (a * b) 0 := by
  simpa using (((hasDerivAt_id (0:ℝ)).mul_const b).const_add 1).const_mul a

theorem linear_deriv (a b : ℝ) : HasDerivAt (fun ε : ℝ => a * (ε * b)) (a * b) 0 := by
  simpa using ((hasDerivAt_id (0:ℝ)).mul_const b).const_mul a

/-- the derivative of `N / (D √g)` where `g = ρ²`, free of square roots -/
theorem hasDerivAt_div_mul_sqrt {N D g : ℝ → ℝ} {N' D' g' x ρ : ℝ} (hN : HasDerivAt N N' x) (hD : HasDerivAt D D' x)
    (hg : HasDerivAt g g' x) (hD0 : D x ≠ 0) (hg0 : g x = ρ ^ 2) (hρ : 0 < ρ) :
    HasDerivAt (fun ε => N ε / (D ε * √(g ε))) ((N' - N x * (D' / D x + g' / (2 * ρ ^ 2))) / (D x * ρ)) x := by
  have hs : √(g x) = ρ := by rw [hg0, sqrt_sq hρ.le]
  have hgne : g x ≠ 0 := by rw [hg0]; positivity
  refine (hN.fun_div (hD.fun_mul (hg.sqrt hgne)) ?_).congr_deriv ?_
  · rw [hs]; exact mul_ne_zero hD0 hρ.ne'
  · rw [hs]; field_simp

/-! ### curvature -/

/-- exact curvature of the polar curve with radius r, r' = r1, r'' = r2 -/
noncomputable def polarCurv (r r1 r2 : ℝ) : ℝ :=
  (r ^ 2 + 2 * r1 ^ 2 - r * r2) / ((r ^ 2 + r1 ^ 2) * Real.sqrt (r ^ 2 + r1 ^ 2))

theorem polarCurv_circle (R : ℝ) (hR : 0 < R) : polarCurv R 0 0 = 1 / R := by
  simp only [polarCurv, ne_eq, OfNat.ofNat_ne_zero, not_false_eq_true, zero_pow, mul_zero, add_zero, sub_zero, sqrt_sq hR.le]
  field_simp

/-- the rates of change of `(r, r', r'')` are written `R u`, `R u₁`, `R u₂`: relative to the radius, as the perturbations are given -/
theorem polarCurv_hasDerivAt {r r1 r2 : ℝ → ℝ} {u u1 u2 R x : ℝ} (hr : HasDerivAt r (R * u) x) (h1 : HasDerivAt r1 (R * u1) x)
    (h2 : HasDerivAt r2 (R * u2) x) (hR : 0 < R) (r0 : r x = R) (r10 : r1 x = 0) (r20 : r2 x = 0) :
    HasDerivAt (fun ε => polarCurv (r ε) (r1 ε) (r2 ε)) (-(u + u2) / R) x := by
  have hg := (hr.fun_pow 2).fun_add (h1.fun_pow 2)
  have hN := ((hr.fun_pow 2).fun_add ((h1.fun_pow 2).const_mul 2)).fun_sub (hr.fun_mul h2)
  refine (hasDerivAt_div_mul_sqrt hN hg hg (ρ := R) ?_ ?_ hR).congr_deriv ?_
  -- `D ≠ 0`, `g = R²` and the value of the derivative, all evaluated at the base point (which settles the second)
  all_goals simp only [r0, r10, r20, Nat.reduceSub, pow_one, ne_eq, OfNat.ofNat_ne_zero, not_false_eq_true, zero_pow, mul_zero,
    add_zero, sub_zero]
  · positivity
  · field_simp; ring

theorem polarCurv_first_order (R u u1 u2 : ℝ) (hR : 0 < R) :
    HasDerivAt (fun ε : ℝ => polarCurv (R * (1 + ε * u)) (R * (ε * u1)) (R * (ε * u2))) (-(u + u2) / R) 0 :=
  polarCurv_hasDerivAt (affine_deriv R u) (linear_deriv R u1) (linear_deriv R u2) hR (by simp) (by simp) (by simp)

/-- the form in which the code reports the curvature (C13, `p2d_curvature_scaled`): same derivative as the true one (`polarCurv_first_order`) -/
theorem codeCurv_first_order (R u u2 : ℝ) (hR : 0 < R) :
    HasDerivAt (fun ε : ℝ => 1 / (R * (1 + ε * (u + u2)))) (-(u + u2) / R) 0 :=
  ((hasDerivAt_const (0:ℝ) (1:ℝ)).fun_div (affine_deriv R (u + u2)) (by simpa using hR.ne')).congr_deriv
    (by simp; field_simp; ring)

/-- signed curvature of a C² plane curve from its first and second derivatives -/
noncomputable def paramCurv (x1 y1 x2 y2 : ℝ) : ℝ :=
  (x1 * y2 - y1 * x2) / ((x1 ^ 2 + y1 ^ 2) * Real.sqrt (x1 ^ 2 + y1 ^ 2))

/-- the curve `t ↦ r t · (cos t, sin t)`: its derivatives, and its curvature is the polar formula -/
theorem polar_param_curv (r r1 r2 : ℝ → ℝ) (h1 : ∀ t, HasDerivAt r (r1 t) t) (h2 : ∀ t, HasDerivAt r1 (r2 t) t) (φ : ℝ) :
    let x := fun t => r t * cos t
    let y := fun t => r t * sin t
    let x1 := fun t => r1 t * cos t - r t * sin t
    let y1 := fun t => r1 t * sin t + r t * cos t
    let x2 := r2 φ * cos φ - 2 * r1 φ * sin φ - r φ * cos φ
    let y2 := r2 φ * sin φ + 2 * r1 φ * cos φ - r φ * sin φ
    (∀ t, HasDerivAt x (x1 t) t) ∧ (∀ t, HasDerivAt y (y1 t) t) ∧
    HasDerivAt x1 x2 φ ∧ HasDerivAt y1 y2 φ ∧
    paramCurv (x1 φ) (y1 φ) x2 y2 = polarCurv (r φ) (r1 φ) (r2 φ) := by
  intro x y x1 y1 x2 y2
  have hsc := Real.sin_sq_add_cos_sq φ
  have e1 : x1 φ ^ 2 + y1 φ ^ 2 = r φ ^ 2 + r1 φ ^ 2 := by
    simp only [x1, y1]; linear_combination (r φ ^ 2 + r1 φ ^ 2) * hsc
  have e2 : x1 φ * y2 - y1 φ * x2 = r φ ^ 2 + 2 * r1 φ ^ 2 - r φ * r2 φ := by
    simp only [x1, y1, x2, y2]; linear_combination (r φ ^ 2 + 2 * r1 φ ^ 2 - r φ * r2 φ) * hsc
  refine ⟨fun t => ((h1 t).mul (hasDerivAt_cos t)).congr_deriv (by simp only [x1]; ring),
    fun t => ((h1 t).mul (hasDerivAt_sin t)).congr_deriv (by simp only [y1]),
    (((h2 φ).mul (hasDerivAt_cos φ)).sub ((h1 φ).mul (hasDerivAt_sin φ))).congr_deriv (by simp only [x2]; ring),
    (((h2 φ).mul (hasDerivAt_sin φ)).add ((h1 φ).mul (hasDerivAt_cos φ))).congr_deriv (by simp only [y2]; ring), ?_⟩
  rw [paramCurv, polarCurv, e1, e2]

/-! ### surfaces of revolution: mean curvature to first order -/

/-- second principal curvature (along the circles of latitude) of the surface of revolution with polar profile `r(θ)` about the axis `θ = 0`:
`n_ρ / ρ` with the outward unit normal `n = (r sin θ − r' cos θ, r cos θ + r' sin θ)/√(r² + r'²)` and `ρ = r sin θ`; `c = cot θ` -/
noncomputable def azimCurv (r r1 c : ℝ) : ℝ := (r - r1 * c) / (r * Real.sqrt (r ^ 2 + r1 ^ 2))

/-- mean curvature of that surface: half the sum of the meridian curvature (`polarCurv`, the curvature of the profile curve) and `azimCurv` -/
noncomputable def revMeanCurv (r r1 r2 c : ℝ) : ℝ := (polarCurv r r1 r2 + azimCurv r r1 c) / 2

theorem azimCurv_hasDerivAt {r r1 : ℝ → ℝ} {u u1 R x : ℝ} (c : ℝ) (hr : HasDerivAt r (R * u) x) (h1 : HasDerivAt r1 (R * u1) x)
    (hR : 0 < R) (r0 : r x = R) (r10 : r1 x = 0) :
    HasDerivAt (fun ε => azimCurv (r ε) (r1 ε) c) (-(u + c * u1) / R) x := by
  refine (hasDerivAt_div_mul_sqrt (hr.fun_sub (h1.mul_const c)) hr ((hr.fun_pow 2).fun_add (h1.fun_pow 2)) (ρ := R)
    ?_ ?_ hR).congr_deriv ?_
  all_goals simp only [r0, r10, Nat.reduceSub, pow_one, ne_eq, OfNat.ofNat_ne_zero, not_false_eq_true, zero_pow, zero_mul, mul_zero,
    add_zero, sub_zero]
  · exact hR.ne'
  · field_simp; ring

theorem azimCurv_first_order (R u u1 c : ℝ) (hR : 0 < R) :
    HasDerivAt (fun ε : ℝ => azimCurv (R * (1 + ε * u)) (R * (ε * u1)) c) (-(u + c * u1) / R) 0 :=
  azimCurv_hasDerivAt c (affine_deriv R u) (linear_deriv R u1) hR (by simp) (by simp)

theorem revMeanCurv_sphere (R c : ℝ) (hR : 0 < R) : revMeanCurv R 0 0 c = 1 / R := by
  simp only [revMeanCurv, polarCurv_circle R hR, azimCurv, ne_eq, OfNat.ofNat_ne_zero, not_false_eq_true, zero_pow, zero_mul,
    add_zero, sub_zero, sqrt_sq hR.le]
  field_simp; ring

/-- **First-order mean curvature of a perturbed sphere of revolution**: `H[R(1 + εu)] = 1/R − ε (2u + u'' + cot θ · u')/(2R) + o(ε)`,
pointwise in the values `u, u', u''` of the perturbation and `c = cot θ` -/
theorem revMeanCurv_first_order (R u u1 u2 c : ℝ) (hR : 0 < R) :
    revMeanCurv R 0 0 c = 1 / R ∧
    HasDerivAt (fun ε : ℝ => revMeanCurv (R * (1 + ε * u)) (R * (ε * u1)) (R * (ε * u2)) c) (-(2 * u + u2 + c * u1) / (2 * R)) 0 :=
  ⟨revMeanCurv_sphere R c hR,
    (((polarCurv_first_order R u u1 u2 hR).fun_add (azimCurv_first_order R u u1 c hR)).div_const 2).congr_deriv (by field_simp; ring)⟩

/-! ### radial graphs `r(θ, φ) e_r`: mean curvature to first order -/

/-- mean curvature of the radial graph `X(θ, φ) = r(θ, φ) e_r` (θ polar angle, φ azimuth), outward normal, from the fundamental forms:
`H = −(eG − 2fF + gE) / (2(EG − F²))` with `E = r_θ² + r²`, `F = r_θ r_φ`, `G = r_φ² + r² sin²θ`, `EG − F² = r² W`,
`W = r² sin²θ + r_θ² sin²θ + r_φ²`, and `e, f, g` the second derivatives of `X` against the normal `(r² s e_r − r r_θ s e_θ − r r_φ e_φ)/(r √W)`;
arguments: `r` and its partial derivatives at the point, `s = sin θ`, `c = cos θ` -/
noncomputable def radialMeanCurv (r rt rp rtt rtp rpp s c : ℝ) : ℝ :=
  -((r * s * (r * rtt - r ^ 2 - 2 * rt ^ 2)) * (rp ^ 2 + r ^ 2 * s ^ 2)
      - 2 * (r * (r * s * rtp - 2 * s * rt * rp - r * c * rp)) * (rt * rp)
      + (r * s * (r * rpp - r ^ 2 * s ^ 2 + r * c * s * rt - 2 * rp ^ 2)) * (rt ^ 2 + r ^ 2))
    / (2 * r ^ 3 * ((r ^ 2 * s ^ 2 + rt ^ 2 * s ^ 2 + rp ^ 2) * Real.sqrt (r ^ 2 * s ^ 2 + rt ^ 2 * s ^ 2 + rp ^ 2)))

/-- cross-check of the two formulas: without `φ`-dependence the radial graph is the surface of revolution of its profile -/
theorem radialMeanCurv_axisym (r rt rtt s c : ℝ) (hr : 0 < r) (hs : 0 < s) :
    radialMeanCurv r rt 0 rtt 0 0 s c = revMeanCurv r rt rtt (c / s) := by
  have hq : 0 < r ^ 2 + rt ^ 2 := by positivity
  have hW : r ^ 2 * s ^ 2 + rt ^ 2 * s ^ 2 = (r ^ 2 + rt ^ 2) * s ^ 2 := by ring
  simp only [radialMeanCurv, revMeanCurv, polarCurv, azimCurv, ne_eq, OfNat.ofNat_ne_zero, not_false_eq_true, zero_pow, mul_zero,
    add_zero, sub_zero, hW, Real.sqrt_mul hq.le, Real.sqrt_sq hs.le]
  -- both sides are rational in `q = √(r² + r_θ²)`, with the same powers of it
  generalize hq' : √(r ^ 2 + rt ^ 2) = q
  have hqpos : 0 < q := hq' ▸ Real.sqrt_pos.mpr hq
  field_simp
  ring

theorem radialMeanCurv_sphere (R s c : ℝ) (hR : 0 < R) (hs : 0 < s) : radialMeanCurv R 0 0 0 0 0 s c = 1 / R :=
  (radialMeanCurv_axisym R 0 0 s c hR hs).trans (revMeanCurv_sphere R (c / s) hR)

theorem radialMeanCurv_hasDerivAt {r rt rp rtt rtp rpp : ℝ → ℝ} {u ut up utt utp upp R x : ℝ} (s c : ℝ)
    (dr : HasDerivAt r (R * u) x) (drt : HasDerivAt rt (R * ut) x) (drp : HasDerivAt rp (R * up) x)
    (drtt : HasDerivAt rtt (R * utt) x) (drtp : HasDerivAt rtp (R * utp) x) (drpp : HasDerivAt rpp (R * upp) x) (hR : 0 < R) (hs : 0 < s)
    (r0 : r x = R) (rt0 : rt x = 0) (rp0 : rp x = 0) (rtt0 : rtt x = 0) (rtp0 : rtp x = 0) (rpp0 : rpp x = 0) :
    HasDerivAt (fun ε => radialMeanCurv (r ε) (rt ε) (rp ε) (rtt ε) (rtp ε) (rpp ε) s c)
      (-(2 * u + (utt + c / s * ut + upp / s ^ 2)) / (2 * R)) x := by
  have dE := (drt.fun_pow 2).fun_add (dr.fun_pow 2)
  have dF := drt.fun_mul drp
  have dG := (drp.fun_pow 2).fun_add ((dr.fun_pow 2).mul_const (s ^ 2))
  have dW := (((dr.fun_pow 2).mul_const (s ^ 2)).fun_add ((drt.fun_pow 2).mul_const (s ^ 2))).fun_add (drp.fun_pow 2)
  have de := (dr.mul_const s).fun_mul (((dr.fun_mul drtt).fun_sub (dr.fun_pow 2)).fun_sub ((drt.fun_pow 2).const_mul 2))
  have df := dr.fun_mul ((((dr.mul_const s).fun_mul drtp).fun_sub ((drt.const_mul (2 * s)).fun_mul drp)).fun_sub
    ((dr.mul_const c).fun_mul drp))
  have dg := (dr.mul_const s).fun_mul ((((dr.fun_mul drpp).fun_sub ((dr.fun_pow 2).mul_const (s ^ 2))).fun_add
    ((dr.mul_const (c * s)).fun_mul drt)).fun_sub ((drp.fun_pow 2).const_mul 2))
  have dN := (((de.fun_mul dG).fun_sub ((df.const_mul 2).fun_mul dF)).fun_add (dg.fun_mul dE)).fun_neg
  have dD := ((dr.fun_pow 3).const_mul 2).fun_mul dW
  -- the definition brackets its denominator as `2r³ · (W √W)`, the rule has `(2r³ W) · √W`
  refine ((hasDerivAt_div_mul_sqrt dN dD dW (ρ := R * s) ?_ ?_ (mul_pos hR hs)).congr_deriv ?_).congr_of_eventuallyEq
    (.of_forall fun ε => by simp only [radialMeanCurv, mul_assoc])
  all_goals simp only [r0, rt0, rp0, rtt0, rtp0, rpp0, Nat.reduceSub, pow_one, ne_eq, OfNat.ofNat_ne_zero, not_false_eq_true,
    zero_pow, mul_zero, zero_mul, add_zero, zero_add, sub_zero]
  · positivity
  · ring
  · field_simp; ring

/-- **First-order mean curvature of a perturbed sphere**: `H[R(1 + εu)] = 1/R − ε (2u + Δ_S u)/(2R) + o(ε)` with the spherical Laplacian
`Δ_S u = u_θθ + cot θ · u_θ + u_φφ / sin²θ`, pointwise in the values of `u` and its partial derivatives; `s = sin θ > 0`, `c = cos θ` -/
theorem radialMeanCurv_first_order (R u ut up utt utp upp s c : ℝ) (hR : 0 < R) (hs : 0 < s) :
    radialMeanCurv R 0 0 0 0 0 s c = 1 / R ∧
    HasDerivAt (fun ε : ℝ => radialMeanCurv (R * (1 + ε * u)) (R * (ε * ut)) (R * (ε * up)) (R * (ε * utt)) (R * (ε * utp)) (R * (ε * upp)) s c)
      (-(2 * u + (utt + c / s * ut + upp / s ^ 2)) / (2 * R)) 0 :=
  ⟨radialMeanCurv_sphere R s c hR hs,
    radialMeanCurv_hasDerivAt s c (affine_deriv R u) (linear_deriv R ut) (linear_deriv R up) (linear_deriv R utt)
      (linear_deriv R utp) (linear_deriv R upp) hR hs (by simp) (by simp) (by simp) (by simp) (by simp) (by simp)⟩

/-! ### zonal harmonics; volume of a solid of revolution (its first order: `Lemmas/SphereVol`) -/

/-- **A zonal harmonic of degree `l ≥ 1` has zero mean over the sphere**: from the eigen-equation `sin θ · Y'' + cos θ · Y' = −l(l+1) sin θ · Y`
(Legendre's equation in the polar angle) alone, `∫₀^π Y(θ) sin θ dθ = 0` — the integrand is, up to the factor `−l(l+1)`, the derivative of
`sin θ · Y'(θ)`, which vanishes at both poles. -/
theorem zonal_mean_zero (Y Y1 Y2 : ℝ → ℝ) (l : ℕ) (hl : 1 ≤ l)
    (h1 : ∀ t, HasDerivAt Y (Y1 t) t) (h2 : ∀ t, HasDerivAt Y1 (Y2 t) t) (hc : Continuous Y2)
    (heig : ∀ t, sin t * Y2 t + cos t * Y1 t = -((l : ℝ) * (l + 1)) * (sin t * Y t)) :
    ∫ t in (0 : ℝ)..π, Y t * sin t = 0 := by
  have hY1c := continuous_of_hasDerivAt h2
  have hYc := continuous_of_hasDerivAt h1
  have hg : ∀ t, HasDerivAt (fun t => sin t * Y1 t) (cos t * Y1 t + sin t * Y2 t) t := fun t => (hasDerivAt_sin t).mul (h2 t)
  have hftc := integral_eq_sub_of_hasDerivAt (fun t _ => hg t)
    (((continuous_cos.mul hY1c).add (continuous_sin.mul hc)).intervalIntegrable 0 π)
  simp only [sin_pi, sin_zero, zero_mul, sub_zero] at hftc
  have hrew : (fun t => cos t * Y1 t + sin t * Y2 t) = fun t => (-((l : ℝ) * (l + 1))) * (Y t * sin t) := by
    funext t; linear_combination heig t
  rw [hrew, intervalIntegral.integral_const_mul] at hftc
  exact (mul_eq_zero.mp hftc).resolve_left (neg_ne_zero.mpr (by positivity))

/-- volume enclosed by the surface of revolution with polar profile `r(θ)` about the axis `θ = 0`: `(2π/3) ∫₀^π r³ sin θ dθ` -/
noncomputable def revVolume (r : ℝ → ℝ) : ℝ := 2 * π / 3 * ∫ t in (0 : ℝ)..π, r t ^ 3 * sin t

/-! ### perimeter of a perturbed circle: no first-order term -/

/-- perimeter of the closed polar curve `r(φ)`, `r1 = r'` -/
noncomputable def polarPerimeter (r r1 : ℝ → ℝ) : ℝ := ∫ x in (0:ℝ)..(2*π), Real.sqrt (r x ^ 2 + r1 x ^ 2)

theorem sqrt_sandwich {r r1 K : ℝ} (hr : 0 ≤ r) (hK : 0 ≤ K) (h : r1 ^ 2 ≤ 2 * r * K) :
    r ≤ √(r ^ 2 + r1 ^ 2) ∧ √(r ^ 2 + r1 ^ 2) ≤ r + K :=
  ⟨le_sqrt_of_sq_le (le_add_of_nonneg_right (sq_nonneg r1)),
    sqrt_le_iff.mpr ⟨add_nonneg hr hK, by linarith [sq_nonneg K]⟩⟩

/-- `sqrt_sandwich` under the integral -/
theorem polarPerimeter_bounds {r r1 : ℝ → ℝ} {K : ℝ} (hr : Continuous r) (hr1 : Continuous r1) (hK : 0 ≤ K)
    (h0 : ∀ x, 0 ≤ r x) (h : ∀ x, r1 x ^ 2 ≤ 2 * r x * K) :
    ∫ x in (0:ℝ)..(2*π), r x ≤ polarPerimeter r r1 ∧ polarPerimeter r r1 ≤ (∫ x in (0:ℝ)..(2*π), r x) + 2 * π * K := by
  have h2pi : (0:ℝ) ≤ 2 * π := by positivity
  have hcont : Continuous fun x => √(r x ^ 2 + r1 x ^ 2) := by fun_prop
  have hK' : ∫ x in (0:ℝ)..(2*π), (r x + K) = (∫ x in (0:ℝ)..(2*π), r x) + 2 * π * K := by
    rw [intervalIntegral.integral_add (integrable_period hr) (integrable_period continuous_const), intervalIntegral.integral_const,
      sub_zero, smul_eq_mul]
  rw [← hK']
  exact ⟨intervalIntegral.integral_mono_on h2pi (integrable_period hr) (integrable_period hcont) fun x _ =>
      (sqrt_sandwich (h0 x) hK (h x)).1,
    intervalIntegral.integral_mono_on h2pi (integrable_period hcont) (integrable_period (hr.add continuous_const)) fun x _ =>
      (sqrt_sandwich (h0 x) hK (h x)).2⟩

/-- for `|ε| m ≤ ½`, `2πR ≤ P[R(1 + εu)] ≤ 2πR + 2πR m₁² ε²` (`m`, `m₁` bounds of `|u|`, `|u'|`; `u` of zero mean) -/
theorem perimeter_sandwich (R : ℝ) (hR : 0 < R) (u u1 : ℝ → ℝ) (hu : Continuous u) (hu1 : Continuous u1) (m m1 : ℝ)
    (hm : ∀ x, |u x| ≤ m) (hm1 : ∀ x, |u1 x| ≤ m1) (hmean : ∫ x in (0:ℝ)..(2*π), u x = 0) (ε : ℝ) (hε : |ε| * m ≤ 1 / 2) :
    2 * π * R ≤ polarPerimeter (fun x => R * (1 + ε * u x)) (fun x => R * (ε * u1 x)) ∧
    polarPerimeter (fun x => R * (1 + ε * u x)) (fun x => R * (ε * u1 x)) ≤ 2 * π * R + 2 * π * R * m1 ^ 2 * ε ^ 2 := by
  -- `r'² = R² ε² u'² ≤ 2 r · R m₁² ε²` because `R/2 ≤ r`; and `∫ r = 2πR` because `u` has zero mean
  have hr : ∀ x, R * (1 / 2) ≤ R * (1 + ε * u x) := fun x => by
    have hux : |ε * u x| ≤ 1 / 2 := (abs_mul ε (u x)).trans_le ((mul_le_mul_of_nonneg_left (hm x) (abs_nonneg ε)).trans hε)
    exact mul_le_mul_of_nonneg_left (by linarith only [(abs_le.mp hux).1]) hR.le
  have hr0 : ∀ x, 0 ≤ R * (1 + ε * u x) := fun x => by linarith only [hr x, hR]
  have h := polarPerimeter_bounds (r := fun x => R * (1 + ε * u x)) (r1 := fun x => R * (ε * u1 x)) (K := R * m1 ^ 2 * ε ^ 2)
    (by fun_prop) (by fun_prop) (by positivity) hr0 fun x => by
      have h1 : u1 x ^ 2 ≤ m1 ^ 2 := sq_le_sq' (abs_le.mp (hm1 x)).1 (abs_le.mp (hm1 x)).2
      have h2 := mul_le_mul_of_nonneg_left (mul_le_mul (hr x) h1 (sq_nonneg _) (hr0 x)) (show 0 ≤ 2 * R * ε ^ 2 by positivity)
      linarith only [h2]
  have hint : ∫ x in (0:ℝ)..(2*π), R * (1 + ε * u x) = 2 * π * R := by
    have e : (fun x => R * (1 + ε * u x)) = fun x => R + (R * ε) * u x := by funext x; ring
    rw [e, intervalIntegral.integral_add (integrable_period continuous_const) (integrable_period (hu.const_mul _)),
      intervalIntegral.integral_const_mul, hmean, intervalIntegral.integral_const]
    simp
  rw [hint] at h
  exact ⟨h.1, h.2.trans_eq (by ring)⟩

theorem hasDerivAt_zero_of_eventually_sq_bound {f : ℝ → ℝ} {C : ℝ} (h : ∀ᶠ ε in 𝓝 0, |f ε - f 0| ≤ C * ε ^ 2) :
    HasDerivAt f 0 0 := by
  have hO : (fun ε => f ε - f 0) =O[𝓝 0] fun ε => ε ^ 2 := .of_bound C (by simpa using h)
  simpa [hasDerivAt_iff_isLittleO_nhds_zero] using hO.trans_isLittleO (Asymptotics.isLittleO_pow_id one_lt_two)

theorem hasDerivAt_zero_of_sq_bound (f : ℝ → ℝ) (C δ : ℝ) (hδ : 0 < δ) (h : ∀ ε, |ε| ≤ δ → |f ε - f 0| ≤ C * ε ^ 2) :
    HasDerivAt f 0 0 :=
  hasDerivAt_zero_of_eventually_sq_bound <|
    Filter.eventually_of_mem (Metric.closedBall_mem_nhds 0 hδ) fun ε hε => h ε (by simpa using hε)

/-- **The perimeter of a perturbed circle has no first-order term when the perturbation has zero mean**: `perimeter_sandwich`
squeezes it to within `O(ε²)` of `2πR` -/
theorem polarPerimeter_first_order (R : ℝ) (hR : 0 < R) (u u1 : ℝ → ℝ) (hu : Continuous u) (hu1 : Continuous u1) (m m1 : ℝ)
    (hm : ∀ x, |u x| ≤ m) (hm1 : ∀ x, |u1 x| ≤ m1) (hmean : ∫ x in (0:ℝ)..(2*π), u x = 0) :
    polarPerimeter (fun x => R * (1 + 0 * u x)) (fun x => R * (0 * u1 x)) = 2 * π * R ∧
    HasDerivAt (fun ε => polarPerimeter (fun x => R * (1 + ε * u x)) (fun x => R * (ε * u1 x))) 0 0 := by
  have hsand := perimeter_sandwich R hR u u1 hu hu1 m m1 hm hm1 hmean
  have h0 : polarPerimeter (fun x => R * (1 + 0 * u x)) (fun x => R * (0 * u1 x)) = 2 * π * R := by
    have := hsand 0 (by norm_num)
    exact le_antisymm (by simpa using this.2) this.1
  refine ⟨h0, hasDerivAt_zero_of_eventually_sq_bound (C := 2 * π * R * m1 ^ 2) ?_⟩
  have hsmall : ∀ᶠ ε in 𝓝 (0:ℝ), |ε| * m < 1 / 2 :=
    (show Continuous fun ε : ℝ => |ε| * m by fun_prop).continuousAt.eventually_lt continuousAt_const (by norm_num)
  filter_upwards [hsmall] with ε hε
  obtain ⟨lo, hi⟩ := hsand ε hε.le
  rw [h0, abs_of_nonneg (sub_nonneg.mpr lo)]
  linarith

end DV.Fourier
