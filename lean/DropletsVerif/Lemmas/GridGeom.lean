/-
  Geometry of the flat (C-order) cell indices used by Model/Merge.lean and Model/Label.lean:
  `unflat` and `flat` are mutually inverse mixed-radix conversions (`setCoord` flattens the index list with one entry
  replaced), and the pairs generated by `inboxEdges` / `edgesOf` are exactly the face neighbours inside the box / across
  a periodic boundary, stated in coordinates (`StepUp`, `Across`).  Used by Props/C02/Merge.lean to state the partition theorem
  in terms of the grid's topology.  Coordinates are read with `getD`; its behaviour under `set` and `map` comes first.
-/
import DropletsVerif.Model.Label
import Mathlib.Tactic

namespace DV.GridGeom
open DV.Merge DV.Label

theorem getD_eq_getElem {α : Type} (l : List α) {k : ℕ} (hk : k < l.length) (d : α) : l.getD k d = l[k] := by
  rw [List.getD_eq_getElem?_getD, List.getElem?_eq_getElem hk]; rfl

theorem getD_set_self {α : Type} (l : List α) {k : ℕ} (hk : k < l.length) (v d : α) : (l.set k v).getD k d = v := by
  rw [List.getD_eq_getElem?_getD, List.getElem?_set_self hk]; rfl

theorem getD_set_ne {α : Type} (l : List α) {k j : ℕ} (h : k ≠ j) (v d : α) : (l.set k v).getD j d = l.getD j d := by
  rw [List.getD_eq_getElem?_getD, List.getD_eq_getElem?_getD, List.getElem?_set_ne h]

/-- inside the list the default does not matter -/
theorem getD_map_lt {α β : Type} (f : α → β) (l : List α) {k : ℕ} (hk : k < l.length) (d : α) (e : β) :
    (l.map f).getD k e = f (l.getD k d) := by
  rw [getD_eq_getElem _ (by simpa using hk), getD_eq_getElem _ hk, List.getElem_map]

theorem getD_map_range {α : Type} (f : ℕ → α) {n k : ℕ} (hk : k < n) (d : α) : ((List.range n).map f).getD k d = f k := by
  rw [List.getD_eq_getElem?_getD, List.getElem?_map, List.getElem?_range hk]; rfl

theorem set_getD_self (l : List ℕ) (k : ℕ) (hk : k < l.length) : l.set k (l.getD k 0) = l := by
  rw [getD_eq_getElem l hk, List.set_getElem_self]

theorem getD_mem {α : Type} (l : List α) {k : ℕ} (hk : k < l.length) (d : α) : l.getD k d ∈ l := by
  rw [getD_eq_getElem _ hk]; exact List.getElem_mem hk

def flat (idx shape : List Nat) : Nat := (idx.zip shape).foldl (fun acc p => acc * p.2 + p.1) 0

/-- the fold inside `Merge.unflat`, whole: the digits and the quotient left over, which `unflat` drops -/
def unflatAux (shape : List Nat) (c : Nat) : List Nat × Nat :=
  shape.foldr (fun n (acc : List Nat × Nat) => ((acc.2 % n) :: acc.1, acc.2 / n)) ([], c)

theorem unflat_eq (shape : List Nat) (c : Nat) : unflat shape c = (unflatAux shape c).1 := rfl

theorem setCoord_eq (shape : List Nat) (c ax v : Nat) :
    setCoord shape c ax v = flat ((unflat shape c).set ax v) shape := rfl

theorem unflatAux_cons (n : Nat) (rest : List Nat) (c : Nat) :
    unflatAux (n :: rest) c = (((unflatAux rest c).2 % n) :: (unflatAux rest c).1, (unflatAux rest c).2 / n) := rfl

theorem numCells_eq_prod (shape : List Nat) : numCells shape = shape.prod := List.prod_eq_foldl.symm

theorem numCells_cons (n : Nat) (rest : List Nat) : numCells (n :: rest) = n * numCells rest := by
  rw [numCells_eq_prod, numCells_eq_prod, List.prod_cons]

theorem numCells_nil : numCells [] = 1 := rfl

theorem numCells_pos (shape : List Nat) (h : ∀ n ∈ shape, 0 < n) : 0 < numCells shape := by
  rw [numCells_eq_prod]
  exact List.prod_pos h

theorem flat_foldl (ds rest : List Nat) (hlen : ds.length = rest.length) (a : Nat) :
    (ds.zip rest).foldl (fun acc p => acc * p.2 + p.1) a = a * numCells rest + flat ds rest := by
  induction rest generalizing ds a with
  | nil =>
    have : ds = [] := List.length_eq_zero_iff.mp hlen
    subst this
    simp [flat, numCells_nil]
  | cons n rest ih =>
    cases ds with
    | nil => simp at hlen
    | cons d ds =>
      have hl : ds.length = rest.length := by simpa using hlen
      unfold flat
      simp only [List.zip_cons_cons, List.foldl_cons]
      rw [ih ds hl (a * n + d), ih ds hl (0 * n + d), numCells_cons]
      ring

theorem flat_cons (d n : Nat) (ds rest : List Nat) (hlen : ds.length = rest.length) :
    flat (d :: ds) (n :: rest) = d * numCells rest + flat ds rest := by
  simpa [flat] using flat_foldl ds rest hlen d

theorem flat_nil : flat [] [] = 0 := rfl

def Valid : List Nat → List Nat → Prop
  | [], [] => True
  | d :: ds, n :: rest => d < n ∧ Valid ds rest
  | _, _ => False

theorem valid_iff : ∀ {idx shape : List Nat}, Valid idx shape ↔
    idx.length = shape.length ∧ ∀ a, a < shape.length → idx.getD a 0 < shape.getD a 1
  | [], [] => by simp [Valid]
  | [], _ :: _ => by simp [Valid]
  | _ :: _, [] => by simp [Valid]
  | d :: ds, n :: rest => by
    simp only [Valid, valid_iff (idx := ds) (shape := rest), List.length_cons, Nat.succ_inj,
      Nat.forall_lt_succ_left, List.getD_cons_zero, List.getD_cons_succ]
    tauto

theorem Valid.length : ∀ {idx shape : List Nat}, Valid idx shape → idx.length = shape.length :=
  fun h => (valid_iff.mp h).1

theorem Valid.set {idx shape : List Nat} (h : Valid idx shape) (a v : Nat) (hv : v < shape.getD a 1) :
    Valid (idx.set a v) shape := by
  rw [valid_iff] at h ⊢
  refine ⟨by rw [List.length_set, h.1], fun b hb => ?_⟩
  by_cases hab : a = b
  · rw [← hab, getD_set_self idx (by rw [h.1, hab]; exact hb)]
    exact hv
  · rw [getD_set_ne idx hab]
    exact h.2 b hb

theorem flat_lt : ∀ {idx shape : List Nat}, Valid idx shape → flat idx shape < numCells shape
  | [], [], _ => Nat.one_pos
  | d :: ds, n :: rest, h => by
    rw [flat_cons d n ds rest (Valid.length h.2), numCells_cons]
    calc d * numCells rest + flat ds rest < (d + 1) * numCells rest := by
          rw [Nat.succ_mul]; exact Nat.add_lt_add_left (flat_lt h.2) _
      _ ≤ n * numCells rest := Nat.mul_le_mul_right _ h.1
  | [], _ :: _, h => h.elim
  | _ :: _, [], h => h.elim

theorem unflatAux_flat : ∀ {ds rest : List Nat}, Valid ds rest → ∀ k,
    unflatAux rest (k * numCells rest + flat ds rest) = (ds, k)
  | [], [], _, k => by simp [unflatAux, flat_nil, numCells_nil]
  | d :: ds, n :: rest, h, k => by
    have e : k * numCells (n :: rest) + flat (d :: ds) (n :: rest)
        = (n * k + d) * numCells rest + flat ds rest := by
      rw [flat_cons d n ds rest (Valid.length h.2), numCells_cons]; ring
    rw [unflatAux_cons, e, unflatAux_flat h.2, Nat.mul_add_mod, Nat.mod_eq_of_lt h.1,
      Nat.mul_add_div (Nat.zero_lt_of_lt h.1), Nat.div_eq_of_lt h.1, Nat.add_zero]
  | [], _ :: _, h, _ => h.elim
  | _ :: _, [], h, _ => h.elim

theorem unflatAux_spec : ∀ (shape : List Nat), (∀ n ∈ shape, 0 < n) → ∀ c,
    Valid (unflatAux shape c).1 shape ∧ (unflatAux shape c).2 = c / numCells shape ∧
      flat (unflatAux shape c).1 shape = c % numCells shape
  | [], _, c => by simp [unflatAux, Valid, flat_nil, numCells_nil, Nat.mod_one]
  | n :: rest, hpos, c => by
    obtain ⟨hv, hq, hf⟩ := unflatAux_spec rest (fun m hm => hpos m (List.mem_cons_of_mem _ hm)) c
    have hn : 0 < n := hpos n List.mem_cons_self
    rw [unflatAux_cons]
    refine ⟨⟨Nat.mod_lt _ hn, hv⟩, ?_, ?_⟩
    · simp only
      rw [hq, numCells_cons, Nat.div_div_eq_div_mul, Nat.mul_comm]
    · simp only
      rw [flat_cons _ n _ rest (Valid.length hv), hf, hq, numCells_cons]
      rw [Nat.mul_comm n, Nat.mod_mul]
      ring

theorem unflat_valid (shape : List Nat) (hpos : ∀ n ∈ shape, 0 < n) (c : Nat) :
    Valid (unflat shape c) shape := unflat_eq shape c ▸ (unflatAux_spec shape hpos c).1

theorem flat_unflat (shape : List Nat) (hpos : ∀ n ∈ shape, 0 < n) {c : Nat} (hc : c < numCells shape) :
    flat (unflat shape c) shape = c := by
  rw [unflat_eq, (unflatAux_spec shape hpos c).2.2, Nat.mod_eq_of_lt hc]

theorem unflat_flat {idx shape : List Nat} (h : Valid idx shape) : unflat shape (flat idx shape) = idx := by
  have := congrArg Prod.fst (unflatAux_flat h 0)
  rwa [Nat.zero_mul, Nat.zero_add, ← unflat_eq] at this

theorem length_unflat (shape : List Nat) (hpos : ∀ n ∈ shape, 0 < n) (c : Nat) :
    (unflat shape c).length = shape.length := (unflat_valid shape hpos c).length

theorem coordOf_lt (shape : List Nat) (hpos : ∀ n ∈ shape, 0 < n) (c a : Nat) (ha : a < shape.length) :
    coordOf shape c a < shape.getD a 1 :=
  (valid_iff.mp (unflat_valid shape hpos c)).2 a ha

theorem getD_pos {shape : List Nat} (hpos : ∀ n ∈ shape, 0 < n) {a : Nat} (ha : a < shape.length) :
    0 < shape.getD a 1 := hpos _ (getD_mem shape ha 1)

theorem setCoord_spec (shape : List Nat) (hpos : ∀ n ∈ shape, 0 < n) (c ax v : Nat)
    (hv : v < shape.getD ax 1) :
    setCoord shape c ax v < numCells shape ∧
      unflat shape (setCoord shape c ax v) = (unflat shape c).set ax v := by
  have hvalid := (unflat_valid shape hpos c).set ax v hv
  rw [setCoord_eq]
  exact ⟨flat_lt hvalid, unflat_flat hvalid⟩

theorem unflat_inj (shape : List Nat) (hpos : ∀ n ∈ shape, 0 < n) {c c' : Nat}
    (hc : c < numCells shape) (hc' : c' < numCells shape) (h : unflat shape c = unflat shape c') : c = c' := by
  rw [← flat_unflat shape hpos hc, ← flat_unflat shape hpos hc', h]

theorem coordOf_inj (shape : List Nat) (hpos : ∀ n ∈ shape, 0 < n) {c c' : Nat}
    (hc : c < numCells shape) (hc' : c' < numCells shape)
    (h : ∀ a, a < shape.length → coordOf shape c a = coordOf shape c' a) : c = c' := by
  refine unflat_inj shape hpos hc hc' (List.ext_getElem ?_ fun a h1 h2 => ?_)
  · rw [length_unflat shape hpos, length_unflat shape hpos]
  · have := h a (by rwa [length_unflat shape hpos] at h1)
    unfold coordOf at this
    rwa [getD_eq_getElem _ h1, getD_eq_getElem _ h2] at this

theorem exists_coordOf (shape : List Nat) (f : Nat → Nat) (hf : ∀ a, a < shape.length → f a < shape.getD a 1) :
    ∃ c, c < numCells shape ∧ ∀ a, a < shape.length → coordOf shape c a = f a := by
  have hv : Valid ((List.range shape.length).map f) shape :=
    valid_iff.mpr ⟨by simp, fun a ha => by rw [getD_map_range f ha]; exact hf a ha⟩
  exact ⟨_, flat_lt hv, fun a ha => by unfold coordOf; rw [unflat_flat hv, getD_map_range f ha]⟩

theorem eq_setCoord_iff (shape : List Nat) (hpos : ∀ n ∈ shape, 0 < n) (c c' ax : Nat) {v : Nat}
    (hv : v < shape.getD ax 1) :
    c' = setCoord shape c ax v ↔ c' < numCells shape ∧ unflat shape c' = (unflat shape c).set ax v := by
  obtain ⟨s1, s2⟩ := setCoord_spec shape hpos c ax v hv
  constructor
  · rintro rfl
    exact ⟨s1, s2⟩
  · rintro ⟨h1, h2⟩
    exact unflat_inj shape hpos h1 s1 (h2.trans s2.symm)

theorem coordOf_set_self {shape : List Nat} {c c' k v : Nat} (hs : unflat shape c' = (unflat shape c).set k v)
    (hk : k < (unflat shape c).length) : coordOf shape c' k = v := by
  unfold coordOf
  rw [hs, getD_set_self _ hk]

theorem coordOf_set_ne {shape : List Nat} {c c' k v j : Nat} (hs : unflat shape c' = (unflat shape c).set k v)
    (hj : k ≠ j) : coordOf shape c' j = coordOf shape c j := by
  unfold coordOf
  rw [hs, getD_set_ne _ hj]

theorem setCoord_self (shape : List Nat) (hpos : ∀ n ∈ shape, 0 < n) {c : Nat} (hc : c < numCells shape) {k : Nat}
    (hk : k < shape.length) : setCoord shape c k (coordOf shape c k) = c := by
  rw [setCoord_eq, coordOf, set_getD_self _ k (by rwa [length_unflat shape hpos]), flat_unflat shape hpos hc]

theorem setCoord_setCoord (shape : List Nat) (hpos : ∀ n ∈ shape, 0 < n) (c k : Nat) {v : Nat} (hv : v < shape.getD k 1)
    (w : Nat) : setCoord shape (setCoord shape c k v) k w = setCoord shape c k w := by
  rw [setCoord_eq shape (setCoord shape c k v), (setCoord_spec shape hpos c k v hv).2, List.set_set, ← setCoord_eq]

/-! ### the generated pairs, in coordinates -/

/-- `c'` is the neighbour of `c` one step up along `ax` inside the box -/
def StepUp (shape : List Nat) (ax c c' : Nat) : Prop :=
  c < numCells shape ∧ c' < numCells shape ∧ ax < shape.length ∧
    unflat shape c' = (unflat shape c).set ax (coordOf shape c ax + 1) ∧
    coordOf shape c ax + 1 < shape.getD ax 1

/-- `c` lies on the lower face of the periodic axis `ax` and `c'` is the cell opposite to it on the
upper face -/
def Across (shape : List Nat) (periodic : List Bool) (ax c c' : Nat) : Prop :=
  c < numCells shape ∧ c' < numCells shape ∧ ax < shape.length ∧ periodic.getD ax false = true ∧
    coordOf shape c ax = 0 ∧ unflat shape c' = (unflat shape c).set ax (shape.getD ax 1 - 1)

theorem mem_inboxEdges (shape : List Nat) (e : Edge) :
    e ∈ inboxEdges shape ↔ e.l < numCells shape ∧ e.ax < shape.length ∧
      coordOf shape e.l e.ax + 1 < shape.getD e.ax 1 ∧
      e.h = setCoord shape e.l e.ax (coordOf shape e.l e.ax + 1) := by
  simp only [inboxEdges, List.mem_flatMap, List.mem_range, List.mem_filterMap, Option.ite_none_right_eq_some,
    Option.some.injEq]
  constructor
  · rintro ⟨c, hc, ax, hax, hlt, rfl⟩
    exact ⟨hc, hax, hlt, rfl⟩
  · rintro ⟨h1, h2, h3, h4⟩
    exact ⟨e.l, h1, e.ax, h2, h3, by rw [← h4]⟩

theorem mem_edgesOf (shape : List Nat) (periodic : List Bool) (e : Edge) :
    e ∈ edgesOf shape periodic ↔ e.ax < shape.length ∧ periodic.getD e.ax false = true ∧
      e.l < numCells shape ∧ coordOf shape e.l e.ax = 0 ∧
      e.h = setCoord shape e.l e.ax (shape.getD e.ax 1 - 1) := by
  simp only [edgesOf, List.mem_flatMap, List.mem_range, List.mem_ite_nil_right, List.mem_map, List.mem_filter,
    beq_iff_eq]
  constructor
  · rintro ⟨ax, hax, hp, c, ⟨hc, h0⟩, rfl⟩
    exact ⟨hax, hp, hc, h0, rfl⟩
  · rintro ⟨h1, h2, h3, h4, h5⟩
    exact ⟨e.ax, h1, h2, e.l, ⟨h3, h4⟩, by rw [← h5]⟩

theorem edgesOf_nonperiodic (shape : List Nat) (periodic : List Bool) (h : ∀ ax, periodic.getD ax false = false) :
    edgesOf shape periodic = [] :=
  List.eq_nil_iff_forall_not_mem.mpr fun e he => Bool.false_ne_true ((h e.ax).symm.trans ((mem_edgesOf shape periodic e).mp he).2.1)

/-- **in-box pairs = one step up along one axis, everything else equal** -/
theorem inboxEdges_iff (shape : List Nat) (hpos : ∀ n ∈ shape, 0 < n) (ax c c' : Nat) :
    (⟨ax, c, c'⟩ : Edge) ∈ inboxEdges shape ↔ StepUp shape ax c c' := by
  rw [mem_inboxEdges]
  constructor
  · rintro ⟨h1, h2, h3, h4⟩
    obtain ⟨s1, s2⟩ := (eq_setCoord_iff shape hpos c c' ax h3).mp h4
    exact ⟨h1, s1, h2, s2, h3⟩
  · rintro ⟨h1, h2, h3, h4, h5⟩
    exact ⟨h1, h3, h5, (eq_setCoord_iff shape hpos c c' ax h5).mpr ⟨h2, h4⟩⟩

/-- **periodic pairs = lower face ↔ opposite cell on the upper face of a periodic axis** -/
theorem edgesOf_iff (shape : List Nat) (periodic : List Bool) (hpos : ∀ n ∈ shape, 0 < n) (ax c c' : Nat) :
    (⟨ax, c, c'⟩ : Edge) ∈ edgesOf shape periodic ↔ Across shape periodic ax c c' := by
  rw [mem_edgesOf]
  constructor
  · rintro ⟨h1, h2, h3, h4, h5⟩
    obtain ⟨s1, s2⟩ := (eq_setCoord_iff shape hpos c c' ax (Nat.sub_lt (getD_pos hpos h1) one_pos)).mp h5
    exact ⟨h3, s1, h1, h2, h4, s2⟩
  · rintro ⟨h1, h2, h3, h4, h5, h6⟩
    exact ⟨h3, h4, h1, h5, (eq_setCoord_iff shape hpos c c' ax (Nat.sub_lt (getD_pos hpos h3) one_pos)).mpr ⟨h2, h6⟩⟩

end DV.GridGeom
