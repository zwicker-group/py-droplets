/-
  List loops in the `Except` monad: Python loops and comprehensions whose body may raise.
-/
import Mathlib.Data.List.Forall2
import Mathlib.Data.List.Induction

namespace DV

theorem mapM_eq_ok_iff {ε α β : Type} (f : α → Except ε β) (l : List α) (rs : List β) :
    l.mapM f = .ok rs ↔ List.Forall₂ (fun a r => f a = .ok r) l rs := by
  induction l generalizing rs with
  | nil => cases rs <;> simp [pure, Except.pure]
  | cons a l ih =>
    simp only [List.mapM_cons, List.forall₂_cons_left_iff, ← ih]
    cases f a <;> cases l.mapM f <;> simp [bind, Except.bind, pure, Except.pure, eq_comm]

theorem mapM_map_ok {ε α β : Type} (f : β → Except ε α) (g : α → β) (l : List α)
    (h : ∀ x ∈ l, f (g x) = .ok x) : (l.map g).mapM f = .ok l := by
  rwa [mapM_eq_ok_iff, List.forall₂_map_left_iff, List.forall₂_same]

/-- Invariant rule: `I done s` says that the loop has reached state `s` after the elements `done`. -/
theorem foldlM_ok_rec {ε σ β : Type} {f : σ → β → Except ε σ} {I : List β → σ → Prop} {s : σ}
    (init : I [] s) (step : ∀ done s b s', I done s → f s b = .ok s' → I (done ++ [b]) s')
    {l : List β} {s' : σ} (h : l.foldlM f s = .ok s') : I l s' := by
  induction l using List.reverseRecOn generalizing s' with
  | nil => cases h; exact init
  | append_singleton l b ih =>
    rw [List.foldlM_append] at h
    cases h1 : l.foldlM f s with
    | error e => rw [h1] at h; cases h
    | ok s1 =>
      simp only [h1, List.foldlM_cons, List.foldlM_nil, bind_pure] at h
      exact step l s1 b s' (ih h1) h

theorem foldlM_total {ε σ β : Type} (f : σ → β → Except ε σ) (hf : ∀ s b, ∃ s', f s b = .ok s')
    (l : List β) (s : σ) : ∃ s', l.foldlM f s = .ok s' := by
  induction l generalizing s with
  | nil => exact ⟨s, rfl⟩
  | cons b l ih =>
    obtain ⟨s1, h1⟩ := hf s b
    rw [List.foldlM_cons, h1]
    exact ih s1

end DV
