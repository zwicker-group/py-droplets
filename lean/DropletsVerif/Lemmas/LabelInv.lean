/-
  Lemmas about the executable labeller (Model/Label.lean), used by Props/C02/Merge.lean: the raster renumbering
  (`firstOf`, `rank`) keeps the partition and numbers the clusters 1, 2, … in the order of their first cells,
  and the raw clusters are the classes of the in-box adjacency restricted to the mask.
-/
import DropletsVerif.Lemmas.MergeInv
import DropletsVerif.Lemmas.GridGeom

namespace DV.LabelInv
open DV.Merge DV.MergeInv DV.Label DV.GridGeom Relation

/-! ### renumbering -/

section rank
variable {n : Nat} (lab : Nat → Nat)

theorem find?_firstOf {c : Nat} (hc : c < n) :
    (List.range n).find? (fun c' => lab c' == lab c) = some (firstOf n lab c) := by
  unfold firstOf
  cases hf : (List.range n).find? (fun c' => lab c' == lab c) with
  | none => simpa using List.find?_range_eq_none.mp hf c hc
  | some i => rfl

theorem lab_firstOf {c : Nat} (hc : c < n) : lab (firstOf n lab c) = lab c := by
  simpa using (List.find?_range_eq_some.mp (find?_firstOf lab hc)).1

/-- the first cell is the least cell with the label of `c` -/
theorem firstOf_le_of_eq {c j : Nat} (hc : c < n) (h : lab j = lab c) : firstOf n lab c ≤ j :=
  not_lt.mp fun hlt => by simpa [h] using (List.find?_range_eq_some.mp (find?_firstOf lab hc)).2.2 j hlt

theorem firstOf_lt {c : Nat} (hc : c < n) : firstOf n lab c < n := (firstOf_le_of_eq lab hc rfl).trans_lt hc

theorem firstOf_eq_iff {c1 c2 : Nat} (h1 : c1 < n) (h2 : c2 < n) :
    firstOf n lab c1 = firstOf n lab c2 ↔ lab c1 = lab c2 :=
  ⟨fun h => by rw [← lab_firstOf lab h1, ← lab_firstOf lab h2, h],
    fun h => le_antisymm (firstOf_le_of_eq lab h1 ((lab_firstOf lab h2).trans h.symm))
      (firstOf_le_of_eq lab h2 ((lab_firstOf lab h1).trans h))⟩

theorem isFirst_iff (f : Nat) : isFirst n lab f = true ↔ 0 < lab f ∧ firstOf n lab f = f := by
  simp [isFirst, isFirstF]

theorem firstOf_idem {c : Nat} (hc : c < n) : firstOf n lab (firstOf n lab c) = firstOf n lab c :=
  (firstOf_eq_iff lab (firstOf_lt lab hc) hc).mpr (lab_firstOf lab hc)

theorem isFirst_firstOf {c : Nat} (hc : c < n) (hp : 0 < lab c) : isFirst n lab (firstOf n lab c) = true :=
  (isFirst_iff lab _).mpr ⟨(lab_firstOf lab hc).symm ▸ hp, firstOf_idem lab hc⟩

/-- the name of a cluster: one more than the number of first cells before its own -/
theorem rank_eq {c : Nat} (hc : c < n) (hp : 0 < lab c) :
    rank n lab c = Nat.count (isFirst n lab · = true) (firstOf n lab c) + 1 := by
  rw [rank, rankF, if_neg hp.ne', ← List.countP_eq_length_filter, ← Nat.count_succ_eq_succ_count_iff.mpr
    (isFirst_firstOf lab hc hp)]
  simp only [Nat.count, Bool.decide_eq_true]
  rfl

theorem rank_zero_iff (c : Nat) (hc : c < n) : rank n lab c = 0 ↔ lab c = 0 := by
  refine ⟨fun h => by_contra fun hne => ?_, fun h => if_pos h⟩
  rw [rank_eq lab hc (Nat.pos_of_ne_zero hne)] at h
  exact Nat.succ_ne_zero _ h

theorem rank_lt_iff {c1 c2 : Nat} (h1 : c1 < n) (h2 : c2 < n) (p1 : 0 < lab c1) (p2 : 0 < lab c2) :
    rank n lab c1 < rank n lab c2 ↔ firstOf n lab c1 < firstOf n lab c2 := by
  rw [rank_eq lab h1 p1, rank_eq lab h2 p2, Nat.add_lt_add_iff_right]
  exact ⟨Nat.lt_of_count_lt_count, Nat.count_strict_mono (isFirst_firstOf lab h1 p1)⟩

theorem rank_eq_iff {c1 c2 : Nat} (h1 : c1 < n) (h2 : c2 < n) (p1 : 0 < lab c1) (p2 : 0 < lab c2) :
    rank n lab c1 = rank n lab c2 ↔ lab c1 = lab c2 := by
  rw [← firstOf_eq_iff lab h1 h2, rank_eq lab h1 p1, rank_eq lab h2 p2, Nat.add_right_cancel_iff]
  exact ⟨Nat.count_injective (isFirst_firstOf lab h1 p1) (isFirst_firstOf lab h2 p2), congrArg _⟩

theorem count_surj (p : Nat → Prop) [DecidablePred p] (m : Nat) : ∀ j, j < Nat.count p m →
    ∃ x, x < m ∧ p x ∧ Nat.count p x = j := by
  induction m with
  | zero => intro j hj; simp at hj
  | succ m ih =>
    intro j hj
    rw [Nat.count_succ] at hj
    by_cases hlt : j < Nat.count p m
    · obtain ⟨x, hx, hpx⟩ := ih j hlt
      exact ⟨x, Nat.lt_succ_of_lt hx, hpx⟩
    · split at hj
      · exact ⟨m, Nat.lt_succ_self m, ‹_›, by omega⟩
      · omega

theorem rank_gapfree {c : Nat} (hc : c < n) (hp : 0 < lab c) (k : Nat) (hk : 1 ≤ k)
    (hle : k ≤ rank n lab c) : ∃ c', c' < n ∧ c' ≤ c ∧ 0 < lab c' ∧ rank n lab c' = k := by
  rw [rank_eq lab hc hp, ← Nat.count_succ_eq_succ_count_iff.mpr (isFirst_firstOf lab hc hp)] at hle
  obtain ⟨f, h1, h2, h3⟩ := count_surj (isFirst n lab · = true) (firstOf n lab c + 1) (k - 1) (by omega)
  obtain ⟨g1, g2⟩ := (isFirst_iff lab f).mp h2
  have s2 := firstOf_le_of_eq lab hc rfl
  have hf : f < n := by omega
  exact ⟨f, hf, by omega, g1, by rw [rank_eq lab hf g1, g2, h3]; omega⟩

/-- `firstOf` and `rankF` only look at the labels and the first cells of the first `n` cells -/
theorem firstOf_congr {lab lab' : Nat → Nat} (h : ∀ x, x < n → lab x = lab' x) {c : Nat} (hc : c < n) :
    firstOf n lab c = firstOf n lab' c := by
  unfold firstOf
  rw [List.find?_congr fun x hx => by rw [h x (List.mem_range.mp hx), h c hc]]

theorem rankF_congr {lab lab' first first' : Nat → Nat} (hl : ∀ x, x < n → lab x = lab' x)
    (hf : ∀ x, x < n → first x = first' x) {c : Nat} (hc : c < n) (hb : first c < n) :
    rankF lab first c = rankF lab' first' c := by
  unfold rankF
  rw [hl c hc, ← hf c hc]
  refine if_congr Iff.rfl rfl (congrArg List.length (List.filter_congr fun x hx => ?_))
  have hx' : x < n := by have := List.mem_range.mp hx; omega
  rw [isFirstF, isFirstF, hl x hx', hf x hx']

end rank

/-! ### raw clusters = classes of the in-box adjacency on the mask -/

/-- one step of `MaskConn`: two mask cells that are equal or the two ends of a pair of `es` -/
def MaskLink (mask : Nat → Bool) (es : List Edge) (a b : Nat) : Prop :=
  mask a = true ∧ mask b = true ∧ (a = b ∨ ∃ e ∈ es, e.l = a ∧ e.h = b)

/-- connectivity of mask cells through the pairs `es` -/
def MaskConn (mask : Nat → Bool) (es : List Edge) : Nat → Nat → Prop := EqvGen (MaskLink mask es)

theorem seedLab_pos (mask : Nat → Bool) (c : Nat) : 0 < seedLab mask c ↔ mask c = true := by
  unfold seedLab; by_cases h : mask c <;> simp [h]

theorem seedLab_inj (mask : Nat → Bool) {a b : Nat} (ha : mask a = true) (hb : mask b = true) :
    seedLab mask a = seedLab mask b ↔ a = b := by
  unfold seedLab; simp [ha, hb]

theorem MaskConn.mono {mask : Nat → Bool} {es es' : List Edge} (h : ∀ e ∈ es, e ∈ es') {a b : Nat}
    (hc : MaskConn mask es a b) : MaskConn mask es' a b :=
  EqvGen.mono (fun _ _ hl => ⟨hl.1, hl.2.1, hl.2.2.imp_right fun ⟨e, he, hab⟩ => ⟨e, h e he, hab⟩⟩) a b hc

/-- starting from a labelling of the mask whose clusters are the classes of the pairs `es0`, the classes of
`Conn` through the pairs `es` are the classes of `es0 ++ es` -/
theorem conn_iff_maskConn {mask : Nat → Bool} {lab0 : Nat → Nat} {es0 : List Edge}
    (hpos : ∀ c, 0 < lab0 c ↔ mask c = true)
    (heq : ∀ c1 c2, mask c1 = true → mask c2 = true → (lab0 c1 = lab0 c2 ↔ MaskConn mask es0 c1 c2))
    (es : List Edge) (a b : Nat) : Conn lab0 es a b ↔ MaskConn mask (es0 ++ es) a b := by
  constructor
  · refine eqvGen_le (EqvGen.is_equivalence _) ?_
    rintro a b ⟨ha, hb, hsame | ⟨e, he, hab⟩⟩
    · exact MaskConn.mono (fun e he => List.mem_append_left _ he)
        ((heq a b ((hpos a).mp ha) ((hpos b).mp hb)).mp hsame)
    · exact EqvGen.rel _ _ ⟨(hpos a).mp ha, (hpos b).mp hb, Or.inr ⟨e, List.mem_append_right _ he, hab⟩⟩
  · refine eqvGen_le (EqvGen.is_equivalence _) ?_
    rintro a b ⟨ma, mb, rfl | ⟨e, he, hab⟩⟩
    · exact EqvGen.refl _
    · refine EqvGen.rel _ _ ⟨(hpos a).mpr ma, (hpos b).mpr mb,
        (List.mem_append.mp he).imp (fun hin => ?_) fun hper => ?_⟩
      · exact (heq a b ma mb).mpr (EqvGen.rel _ _ ⟨ma, mb, Or.inr ⟨e, hin, hab⟩⟩)
      · exact ⟨e, hper, hab⟩

theorem maskConn_nil {mask : Nat → Bool} {a b : Nat} : MaskConn mask [] a b ↔ a = b := by
  refine ⟨eqvGen_le ⟨fun _ => rfl, Eq.symm, Eq.trans⟩ ?_, fun h => h ▸ EqvGen.refl _⟩
  rintro a b ⟨_, _, h | ⟨e, he, _⟩⟩
  · exact h
  · cases he

theorem conn_seed_iff (mask : Nat → Bool) (es : List Edge) (a b : Nat) :
    Conn (seedLab mask) es a b ↔ MaskConn mask es a b :=
  conn_iff_maskConn (seedLab_pos mask) (fun _ _ h1 h2 => (seedLab_inj mask h1 h2).trans maskConn_nil.symm) es a b

theorem rawLabel_pos_iff (shape : List Nat) (mask : Nat → Bool) (c : Nat) :
    0 < rawLabel shape mask c ↔ mask c = true := by
  unfold rawLabel rawState
  rw [(labInv_final _ _ _ _ _).pos_iff c, seedLab_pos]

theorem rawLabel_eq_iff (shape : List Nat) (mask : Nat → Bool) {c1 c2 : Nat}
    (h1 : mask c1 = true) (h2 : mask c2 = true) :
    rawLabel shape mask c1 = rawLabel shape mask c2 ↔ MaskConn mask (inboxEdges shape) c1 c2 :=
  ((labInv_final _ _ _ _ _).eq_iff_conn ((seedLab_pos mask c1).mpr h1) ((seedLab_pos mask c2).mpr h2)).trans
    (conn_seed_iff mask _ c1 c2)

/-! ### the labelled image -/

/-- the label image as a function (0 outside the grid) -/
def labelFn (shape : List Nat) (mask : Nat → Bool) (c : Nat) : Nat := (labelExec shape mask).getD c 0

theorem labelExec_length (shape : List ℕ) (mask : ℕ → Bool) : (labelExec shape mask).length = numCells shape := by
  simp only [labelExec, List.length_map, List.length_range]

/-- `getD_map_range` for the tables of `labelExec`, which are arrays -/
theorem table_getD (f : Nat → Nat) {n x : Nat} (hx : x < n) : ((List.range n).map f).toArray.getD x 0 = f x := by
  rw [Array.getD_eq_getD_getElem?, List.getElem?_toArray, ← List.getD_eq_getElem?_getD, getD_map_range f hx]

theorem labelFn_eq (shape : List Nat) (mask : Nat → Bool) {c : Nat} (hc : c < numCells shape) :
    labelFn shape mask c = rank (numCells shape) (rawLabel shape mask) c := by
  unfold labelFn labelExec
  simp only
  rw [getD_map_range _ hc]
  -- the tables of labels and of first cells agree with `rawLabel` and `firstOf` on the grid
  have hl := fun x (hx : x < numCells shape) => table_getD (rawState shape mask).lab hx
  exact rankF_congr hl (fun x hx => (table_getD _ hx).trans (firstOf_congr hl hx)) hc
    ((table_getD _ hc).trans_lt (firstOf_lt _ hc))

theorem labelFn_out (shape : List Nat) (mask : Nat → Bool) {c : Nat} (hc : numCells shape ≤ c) :
    labelFn shape mask c = 0 := by
  rw [labelFn, List.getD_eq_getElem?_getD, List.getElem?_eq_none ((labelExec_length shape mask).trans_le hc)]
  rfl

end DV.LabelInv
