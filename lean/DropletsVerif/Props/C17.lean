/-
  C17 — Length scales are physical lengths: they scale with the grid, not the field.
  Theorems over `ℝ` about `Generated/Scales.lean` (the closed-form lines of `get_length_scale`,
  regenerated on every run, INCLUDING the default smoothing width of the peak method).
  Stretching the grid by `λ > 0` divides every wave number by `λ` (C16, `k_scales_inverse`) and leaves
  the structure-factor values unchanged.  The smoother of the peak method is modelled (`nwSmooth` with
  the kernel `gauss`, after `SmoothData1D`) and its covariance proved; the scalar maximiser is not
  modelled: the theorems speak of any point it may return.
-/
import DropletsVerif.Lemmas.RealInst
import DropletsVerif.Generated.Scales
import Mathlib.Tactic

namespace DV.C17
open DV.Gen

theorem lsum_eq (xs : List ℝ) : lsum xs = xs.sum := by
  simp [lsum, List.sum_eq_foldl]

theorem ldot_eq (xs ys : List ℝ) : ldot xs ys = ((xs.zip ys).map fun p => p.1 * p.2).sum := by
  simp [ldot, List.sum_eq_foldl, List.foldl_map]

theorem ldot_scale_left (c : ℝ) (xs ys : List ℝ) : ldot (xs.map (c * ·)) ys = c * ldot xs ys := by
  simp only [ldot_eq, List.zip_map_left, List.map_map, Function.comp_def, Prod.map, id, mul_assoc, List.sum_map_mul_left]

theorem ldot_scale_right (c : ℝ) (xs ys : List ℝ) : ldot xs (ys.map (c * ·)) = c * ldot xs ys := by
  simp only [ldot_eq, List.zip_map_right, List.map_map, Function.comp_def, Prod.map, id, mul_left_comm _ c, List.sum_map_mul_left]

theorem lsum_scale (c : ℝ) (xs : List ℝ) : lsum (xs.map (c * ·)) = c * lsum xs := by
  rw [lsum_eq, lsum_eq, ← List.map_id xs, List.map_map]
  exact List.sum_map_mul_left xs id c

/-! ### moment-based method -/

theorem mean_length_eq (ks sfs : List ℝ) : mean_length ks sfs = 2 * Real.pi * lsum sfs / ldot ks sfs := by
  simp [mean_length]

/-- **Stretching the grid by λ stretches the moment-based length scale by λ** (wave numbers ÷ λ,
structure factor unchanged) -/
theorem mean_length_covariant (lam : ℝ) (hl : lam ≠ 0) (ks sfs : List ℝ) :
    mean_length (ks.map ((1 / lam) * ·)) sfs = lam * mean_length ks sfs := by
  -- `X / (λ⁻¹ D) = X λ / D`
  rw [mean_length_eq, mean_length_eq, ldot_scale_left, one_div, inv_mul_eq_div, div_div_eq_mul_div, mul_comm, mul_div_assoc]

/-- **Multiplying every structure-factor value by a non-zero constant changes nothing** (scaling the FIELD
leaves them as they are: C16 `sf_scale_invariant`) -/
theorem mean_length_field_scale (c : ℝ) (hc : c ≠ 0) (ks sfs : List ℝ) :
    mean_length ks (sfs.map (c * ·)) = mean_length ks sfs := by
  rw [mean_length_eq, mean_length_eq, ldot_scale_right, lsum_scale, mul_left_comm, mul_div_mul_left _ _ hc]

/-- **For a spectrum carried by one shell of wave numbers** — a plane wave: by `DV.C16.plane_wave_support` its structure factor
vanishes off the two wave vectors `±k₀`, which by `DV.C16.fftRep_neg` have the same modulus — **the moment formula returns
exactly the wavelength `2π/|k₀|`**, whatever the amplitude, offset, phase and grid spacing.  This is a statement about the formula on the RAW
spectrum (`get_structure_factor(smoothing=None)`; checked on the real code for every generated plane wave).  `get_length_scale` applies the same
formula to the SMOOTHED spectrum (default smoothing `"auto"`), which spreads the two peaks: there the value is biased (observed 17.9 for a
wavelength of 16 cells, 16 cells per box) — the property claims plane-wave accuracy only for the peak-based and the counting method. -/
theorem mean_length_single_shell (k0 : ℝ) (ks sfs : List ℝ)
    (h : ∀ p ∈ ks.zip sfs, p.2 ≠ 0 → p.1 = k0) (hlen : sfs.length ≤ ks.length) (hs : lsum sfs ≠ 0) (hk : k0 ≠ 0) :
    mean_length ks sfs = 2 * Real.pi / k0 := by
  have key : ldot ks sfs = k0 * lsum sfs := by
    rw [ldot_eq, lsum_eq]
    conv_rhs => rw [← List.map_snd_zip hlen, ← List.sum_map_mul_left]
    refine congrArg _ (List.map_congr_left fun p hp => ?_)
    by_cases hp2 : p.2 = 0
    · rw [hp2, mul_zero, mul_zero]
    · rw [h p hp hp2]
  rw [mean_length_eq, key, mul_div_mul_right _ _ hs]

/-- non-vacuity: two peaks at |k| = 3 among four wave numbers -/
example : mean_length ([1, 3, 3, 5] : List ℝ) [0, 2, 2, 0] = 2 * Real.pi / 3 :=
  mean_length_single_shell 3 _ _ (by simp) (Nat.le_refl 4) (by norm_num [lsum_eq]) three_ne_zero

/-- a value of the formula: two wave numbers, flat spectrum -/
example : mean_length ([1, 3] : List ℝ) [1, 1] = 2 * Real.pi * 2 / 4 := by
  rw [mean_length_eq, lsum_eq, ldot_eq]; norm_num

/-! ### peak-based method -/

theorem peak_length_covariant (lam x : ℝ) (hl : lam ≠ 0) (hx : x ≠ 0) :
    peak_length (x / lam) = lam * peak_length x := by
  simp only [peak_length, dnum_lit, dnum_pi]
  field_simp

/-- **The default smoothing width is a wave number**: it scales like `1/λ` when the grid is
stretched (finding D10: as `0.01·dx` it scaled like `λ`) -/
theorem default_sigma_covariant (lam L dx : ℝ) (hl : lam ≠ 0) (hL : L ≠ 0) :
    default_sigma (lam * L) (lam * dx) = default_sigma L dx / lam := by
  simp only [default_sigma, dnum_lit, dnum_pi]
  field_simp

/-- **If the smoother is covariant and the width passed to it scales like `1/λ`** — so that `S'`, the smoothed structure factor on the
stretched grid, is the original `S` read at `q/λ` — **the maximiser scales like `1/λ`** -/
theorem max_covariant_if_sigma_covariant (lam : ℝ) (hl : lam ≠ 0) (S S' : ℝ → ℝ)
    (hcov : ∀ q, S' (q / lam) = S q) (k0 : ℝ) (hmax : ∀ q, S q ≤ S k0) (q : ℝ) : S' q ≤ S' (k0 / lam) := by
  rw [← mul_div_cancel_right₀ q hl, hcov, hcov]
  exact hmax _

/-- the kernel smoother of the peak method (`pde.tools.math.SmoothData1D.__call__`): weights `K(q − k_i)`, normalised when their sum is
positive (otherwise they are all zero and so is the result) -/
noncomputable def nwSmooth {ι : Type} [Fintype ι] (K : ℝ → ℝ) (k s : ι → ℝ) (q : ℝ) : ℝ :=
  if 0 < ∑ i, K (q - k i) then (∑ i, s i * K (q - k i)) / ∑ i, K (q - k i) else 0

/-- a weighted average that reaches the level `v > 0` has a contributing sample at that level: wherever the smoothed structure factor is at
least `v`, a raw sample with value at least `v` lies within the reach `ρ` of the kernel -/
theorem nwSmooth_ge_has_sample {ι : Type} [Fintype ι] (K : ℝ → ℝ) (hK : ∀ x, 0 ≤ K x) (ρ : ℝ) (hsupp : ∀ x, ρ ≤ |x| → K x = 0)
    (k s : ι → ℝ) (q v : ℝ) (hv : 0 < v) (h : v ≤ nwSmooth K k s q) :
    ∃ i, |q - k i| < ρ ∧ v ≤ s i := by
  unfold nwSmooth at h
  split_ifs at h with hw
  · rw [le_div_iff₀ hw, Finset.mul_sum] at h
    by_contra hno
    push Not at hno
    -- where the weight is positive the sample is within reach, hence below `v`; and some weight is positive
    have hlt : ∀ i, 0 < K (q - k i) → s i < v := fun i hi => hno i (not_le.mp fun hr => hi.ne' (hsupp _ hr))
    obtain ⟨j, -, hj⟩ := Finset.exists_ne_zero_of_sum_ne_zero hw.ne'
    have hj' := (hK _).lt_of_ne' hj
    refine (Finset.sum_lt_sum (fun i _ => ?_) ⟨j, Finset.mem_univ j, ?_⟩).not_ge h
    · rcases (hK (q - k i)).eq_or_lt with h0 | h0
      · rw [← h0, mul_zero, mul_zero]
      · exact mul_le_mul_of_nonneg_right (hlt i h0).le h0.le
    · exact mul_lt_mul_of_pos_right (hlt j hj') hj'
  · linarith

/-- **The peak of a plane wave is found within the reach of the kernel.**  Raw spectrum: the value `s₀ > 0` on the shell `|k| = k₀` and
below `s₀` everywhere else except at the prepended zero mode (`add_zero=True`: the pair (0, 1)); `x` any point that the maximiser returns with
`S(x) ≥ s₀ = S(k₀)` (it does not return a point worse than the centre of its bracket) and away from zero.  Then `|x − k₀| < ρ`: with the default
smoothing (σ = 10⁻³ Fourier bins; in double precision the Gaussian weights vanish beyond 38.6 σ) that is 0.04 bins — well within the half bin the
property asks for, for any grid spacing. -/
theorem peak_plane_wave_within_reach {ι : Type} [Fintype ι] (K : ℝ → ℝ) (hK : ∀ x, 0 ≤ K x) (ρ : ℝ) (hsupp : ∀ x, ρ ≤ |x| → K x = 0)
    (k s : ι → ℝ) (k0 s0 : ℝ) (hs0 : 0 < s0) (hshell : ∀ i, s0 ≤ s i → k i = k0 ∨ k i = 0)
    (x : ℝ) (hx : ρ ≤ x) (hbest : s0 ≤ nwSmooth K k s x) : |x - k0| < ρ := by
  obtain ⟨i, hi, hsi⟩ := nwSmooth_ge_has_sample K hK ρ hsupp k s x s0 hs0 hbest
  rcases hshell i hsi with h | h
  · rwa [h] at hi
  · -- a sample at the zero mode would be out of reach: `|x| < ρ ≤ x`
    rw [h, sub_zero] at hi
    exact absurd (hx.trans (le_abs_self x)) hi.not_ge

/-- non-vacuity: samples (0, 1), (5, ½), (6, 0) — zero mode, plane-wave shell, a neighbour — box kernel of reach ¼: the smoothed value at 5.1
is the shell's ½, and the theorem places 5.1 within ¼ of the shell -/
example : |(5.1 : ℝ) - 5| < 1 / 4 := by
  refine peak_plane_wave_within_reach (ι := Fin 3) (fun x => if |x| < 1 / 4 then 1 else 0) (fun x => by positivity) (1 / 4)
    (fun x hx => if_neg (not_lt.mpr hx)) ![0, 5, 6] ![1, 1 / 2, 0] 5 (1 / 2) (by norm_num) ?_ 5.1 (by norm_num) ?_
  · intro i; fin_cases i <;> simp
  · simp only [nwSmooth, Fin.sum_univ_three, Matrix.cons_val_zero, Matrix.cons_val_one, Matrix.cons_val_two]
    norm_num [abs_lt]

/-- the Gaussian kernel of `SmoothData1D`: `exp(−x² / (2σ²))` (written as the code does: `exp(−(0.5 σ⁻²) x²)`) -/
noncomputable def gauss (σ x : ℝ) : ℝ := Real.exp (-(0.5 * (σ ^ 2)⁻¹) * x ^ 2)

theorem nwSmooth_covariant {ι : Type} [Fintype ι] (K K' : ℝ → ℝ) (lam : ℝ) (hK : ∀ x, K' (x / lam) = K x) (k s : ι → ℝ) (q : ℝ) :
    nwSmooth K' (fun i => k i / lam) s (q / lam) = nwSmooth K k s q := by
  simp only [nwSmooth, ← sub_div, hK]

theorem gauss_scale (lam σ x : ℝ) (hl : lam ≠ 0) : gauss (σ / lam) (x / lam) = gauss σ x := by
  unfold gauss
  congr 1
  by_cases hσ : σ = 0
  · simp [hσ]
  · field_simp

/-- **The smoother is covariant under stretching the grid**: wave numbers, evaluation point and smoothing width all divided by `λ` give the
same smoothed value; this is what `hcov` of `max_covariant_if_sigma_covariant` asks for -/
theorem nwSmooth_gauss_covariant {ι : Type} [Fintype ι] (lam σ : ℝ) (hl : lam ≠ 0) (k s : ι → ℝ) (q : ℝ) :
    nwSmooth (gauss (σ / lam)) (fun i => k i / lam) s (q / lam) = nwSmooth (gauss σ) k s q :=
  nwSmooth_covariant _ _ lam (fun x => gauss_scale lam σ x hl) k s q

/-- with the DEFAULT smoothing width (regenerated `default_sigma`) the smoothed structure factor of the
stretched grid is the original one read at `q/λ` -/
theorem peak_smoothing_default_covariant {ι : Type} [Fintype ι] (lam L dx : ℝ) (hl : lam ≠ 0) (hL : L ≠ 0) (k s : ι → ℝ) (q : ℝ) :
    nwSmooth (gauss (default_sigma (lam * L) (lam * dx))) (fun i => k i / lam) s (q / lam)
      = nwSmooth (gauss (default_sigma L dx)) k s q := by
  rw [default_sigma_covariant lam L dx hl hL]
  exact nwSmooth_gauss_covariant lam _ hl k s q

/-- multiplying the structure factor by a constant multiplies the smoothed curve by it: for `c > 0` the maximiser does not move -/
theorem nwSmooth_scale {ι : Type} [Fintype ι] (K : ℝ → ℝ) (c : ℝ) (k s : ι → ℝ) (q : ℝ) :
    nwSmooth K k (fun i => c * s i) q = c * nwSmooth K k s q := by
  unfold nwSmooth
  split_ifs
  · rw [← mul_div_assoc, Finset.mul_sum]; congr 1; apply Finset.sum_congr rfl; intro i _; ring
  · simp

/-- **The peak method stretches with the grid** (default smoothing, any spectrum): if `k₀` maximises the smoothed structure factor of the
original grid, `k₀/λ` maximises that of the grid stretched by `λ > 0`, and the reported length is `λ` times the original one -/
theorem peak_method_covariant {ι : Type} [Fintype ι] (lam L dx : ℝ) (hl : 0 < lam) (hL : L ≠ 0) (k s : ι → ℝ) (k0 : ℝ) (hk0 : k0 ≠ 0)
    (hmax : ∀ q, nwSmooth (gauss (default_sigma L dx)) k s q ≤ nwSmooth (gauss (default_sigma L dx)) k s k0) :
    (∀ q, nwSmooth (gauss (default_sigma (lam * L) (lam * dx))) (fun i => k i / lam) s q
        ≤ nwSmooth (gauss (default_sigma (lam * L) (lam * dx))) (fun i => k i / lam) s (k0 / lam)) ∧
    peak_length (k0 / lam) = lam * peak_length k0 :=
  ⟨max_covariant_if_sigma_covariant lam hl.ne' _ _ (peak_smoothing_default_covariant lam L dx hl.ne' hL k s) k0 hmax,
    peak_length_covariant lam k0 hl.ne' hk0⟩

/-! ### droplet-counting method -/

/-- **The d-th root of the volume per detected droplet** -/
theorem droplet_length_formula (vol : ℝ) (n d : ℕ) :
    droplet_length vol n d = (vol / n) ^ ((1 : ℝ) / d) := by
  simp [droplet_length]

/-- **Stretching all free axes by λ stretches it by λ** -/
theorem droplet_length_covariant (lam vol : ℝ) (n d : ℕ) (hl : 0 < lam) (hv : 0 ≤ vol) (hd : 0 < d) :
    droplet_length (lam ^ d * vol) n d = lam * droplet_length vol n d := by
  rw [droplet_length_formula, droplet_length_formula]
  have hd' : (d : ℝ) ≠ 0 := by exact_mod_cast hd.ne'
  have hvn : 0 ≤ vol / n := div_nonneg hv (Nat.cast_nonneg n)
  rw [mul_div_assoc, Real.mul_rpow (pow_nonneg hl.le d) hvn]
  congr 1
  rw [← Real.rpow_natCast, ← Real.rpow_mul hl.le, mul_one_div, div_self hd', Real.rpow_one]

end DV.C17
