/-
  C19 — Requested droplet model determines the class and shape of every result.
  Theorems about Model/ClassSel.lean for ALL mode counts (`modes : Nat`) and the complete finite
  product of the other request parameters.
-/
import DropletsVerif.Model.ClassSel
import DropletsVerif.Lemmas.ExceptMapM
import Mathlib.Tactic

namespace DV.C19
open DV.ClassSel

/-- the table stated in the property -/
def specClass (g : GridFam) (dim modes : Nat) (width refine : Bool) : Result :=
  if modes > 0 then
    { cls := if dim = 2 then .p2d else if g = .cylindrical then .p3dAxi else .p3d
      amps := modes, hasWidth := width || refine }
  else if width || refine then ⟨.diffuse, 0, true⟩
  else ⟨.spherical, 0, false⟩

/-- before refinement the candidate has the class of the table's `refine = false` column; the
model's `NotImplementedError` branch is unreachable -/
theorem candidateClass_eq (g : GridFam) (dim modes : Nat) (width : Bool) :
    candidateClass g dim modes width =
      if modes > 0 ∧ dim ≠ 2 ∧ dim ≠ 3 then .error "ValueError"
      else .ok (specClass g dim modes width false) := by
  unfold candidateClass specClass
  by_cases hm : modes > 0
  · by_cases h2 : dim = 2
    · simp [hm, h2]
    · by_cases h3 : dim = 3
      · by_cases hg : g = .cylindrical <;> simp [hm, h3, hg]
      · simp [hm, h2, h3]
  · cases width <;> simp [hm]

theorem refineClass_specClass (g : GridFam) (dim modes : Nat) (width : Bool) :
    refineClass (specClass g dim modes width false) = specClass g dim modes width true := by
  unfold refineClass specClass
  by_cases hm : modes > 0
  · by_cases h2 : dim = 2
    · simp [hm, h2]
    · by_cases hg : g = .cylindrical <;> simp [hm, h2, hg]
  · cases width <;> simp [hm]

/-- the class table for every grid family and EVERY dimension: the error is raised exactly when
modes are requested outside 2-D and 3-D -/
theorem resultClass_eq (g : GridFam) (dim modes : Nat) (width refine : Bool) :
    resultClass g dim modes width refine =
      if modes > 0 ∧ dim ≠ 2 ∧ dim ≠ 3 then .error "ValueError"
      else .ok (specClass g dim modes width refine) := by
  rw [resultClass, candidateClass_eq]
  by_cases he : modes > 0 ∧ dim ≠ 2 ∧ dim ≠ 3
  · rw [if_pos he, if_pos he]
  · rw [if_neg he, if_neg he]
    cases refine
    · rfl
    · exact congrArg Except.ok (refineClass_specClass g dim modes width)

/-- **The class table**: for every grid family, every dimension the family allows, every mode
count, width given or not, refinement on or off — the documented error for modes in 1-D,
otherwise exactly the class, amplitude count and width flag the request implies. -/
theorem resultClass_spec (g : GridFam) (cartDim modes : Nat) (width refine : Bool)
    (hd : g = .cartesian → cartDim = 1 ∨ cartDim = 2 ∨ cartDim = 3) :
    let dim := dimOf g cartDim
    resultClass g dim modes width refine =
      if modes > 0 ∧ dim = 1 then .error "ValueError" else .ok (specClass g dim modes width refine) := by
  intro dim
  have hdim : dim = 1 ∨ dim = 2 ∨ dim = 3 := by
    cases g
    exacts [hd rfl, .inr (.inl rfl), .inr (.inr rfl), .inr (.inr rfl)]
  rw [resultClass_eq]
  exact if_congr (and_congr_right fun _ =>
    ⟨fun h => hdim.resolve_right (not_or.mpr h), fun h => by rw [h]; decide⟩) rfl rfl

/-- **Uniform layout**: all droplets of one result share class, amplitude count and width flag
(the one `resultClass` gives), so the emulsion's tabular data can be formed. -/
theorem layout_uniform (g : GridFam) (dim modes : Nat) (width refine : Bool) (n : Nat) (rs : List Result)
    (h : locateClasses g dim modes width refine n = .ok rs) :
    rs.length = n ∧ ∀ r ∈ rs, resultClass g dim modes width refine = .ok r := by
  have h2 := (mapM_eq_ok_iff _ _ _).mp h
  refine ⟨by rw [← h2.length_eq, List.length_range], fun r hr => ?_⟩
  obtain ⟨i, hi, rfl⟩ := List.mem_iff_getElem.mp hr
  exact h2.get (h2.length_eq ▸ hi) hi

/-- a supplied width is carried by every unrefined result, none of which is a plain sphere -/
theorem width_carried (g : GridFam) (dim modes : Nat) (r : Result)
    (h : resultClass g dim modes true false = .ok r) : r.hasWidth = true ∧ r.cls ≠ .spherical := by
  rw [resultClass_eq] at h
  split_ifs at h
  cases h
  unfold specClass
  simp only [Bool.or_false, if_true]
  split_ifs <;> simp

example : resultClass .cylindrical 3 8 false true = .ok ⟨.p3dAxi, 8, true⟩ := by decide

end DV.C19
