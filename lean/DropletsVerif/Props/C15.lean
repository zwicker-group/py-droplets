/-
  C15 — Results do not depend on the number of worker processes or on scheduling.
  Theorems about Model/Executor.lean: for every task function, every input list and EVERY
  completion order (any permutation of the tasks; repetitions allowed).
-/
import DropletsVerif.Model.Executor
import Mathlib.Tactic

namespace DV.C15
open DV.Executor

variable {α β : Type}

theorem foldl_set_getElem? {γ : Type} (v : Nat → γ) (sched : List Nat) (slots : List γ) (j : Nat) :
    (sched.foldl (fun s i => s.set i (v i)) slots)[j]? =
      slots[j]?.map fun old => if j ∈ sched then v j else old := by
  induction sched generalizing slots with
  | nil => simp
  | cons i rest ih =>
    rw [List.foldl_cons, ih, List.getElem?_set']
    by_cases hij : i = j
    · subst hij
      cases slots[i]? <;> simp
    · simp [hij, Ne.symm hij]

theorem runSchedule_eq (f : α → β) (xs : List α) (sched : List Nat)
    (hall : ∀ i, i < xs.length → i ∈ sched) :
    runSchedule f xs sched = (xs.map f).map some := by
  -- `complete f xs` is the step `fun s i => s.set i (xs[i]?.map f)` by definition
  refine List.ext_getElem? fun j => (foldl_set_getElem? (fun i => xs[i]?.map f) sched _ j).trans ?_
  by_cases hj : j < xs.length
  · simp [hall j hj, hj]
  · simp [hj]

/-- **`executor.map` returns results in submission order whatever the completion order.** -/
theorem map_schedule_independent (f : α → β) (xs : List α) (sched : List Nat)
    (hall : ∀ i, i < xs.length → i ∈ sched) : poolMap f xs sched = xs.map f := by
  rw [poolMap, runSchedule_eq f xs sched hall, List.filterMap_map, Function.id_comp, List.filterMap_some]

theorem map_perm_independent (f : α → β) (xs : List α) (sched : List Nat)
    (h : sched.Perm (List.range xs.length)) : poolMap f xs sched = xs.map f :=
  map_schedule_independent f xs sched (fun _ hi => h.symm.subset (List.mem_range.mpr hi))

/-- **Refining candidates in a pool equals refining them serially** (same droplets, same order,
`None` results dropped) for every completion order. -/
theorem refine_par_eq_ser (f : α → Option β) (xs : List α) (sched : List Nat)
    (hall : ∀ i, i < xs.length → i ∈ sched) : refineParallel f xs sched = refineSerial f xs := by
  unfold refineParallel refineSerial
  rw [map_schedule_independent f xs sched hall, List.filterMap_map]
  rfl

/-- **Analysing stored frames in a pool equals analysing them serially.** -/
theorem storage_par_eq_ser (f : α → β) (xs : List α) (sched : List Nat)
    (hall : ∀ i, i < xs.length → i ∈ sched) : storageParallel f xs sched = storageSerial f xs :=
  map_schedule_independent f xs sched hall

/-- two different schedules (e.g. different worker counts) give the same result -/
theorem schedules_agree (f : α → β) (xs : List α) (s1 s2 : List Nat)
    (h1 : s1.Perm (List.range xs.length)) (h2 : s2.Perm (List.range xs.length)) :
    poolMap f xs s1 = poolMap f xs s2 := by
  rw [map_perm_independent f xs s1 h1, map_perm_independent f xs s2 h2]

/-- non-vacuity: four tasks completing in reversed order -/
example : poolMap (fun x : Nat => x * x) [1, 2, 3, 4] [3, 2, 1, 0] = [1, 4, 9, 16] := by decide

end DV.C15
