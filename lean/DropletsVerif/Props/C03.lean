/-
  C03 — A rendered phase field is a faithful, finite picture of the droplet.
  * profile theorems: over `ℝ`, about `Generated/Profile.lean` (regenerated from the three
    `_get_phase_field` bodies and from `get_phase_field` on every run);
  * geometry theorems: over `ℚ`, about `Model/Render.lean` (periodic difference vector, cell
    centres, sum-and-clip of an emulsion).
  The perturbed renderer is the diffuse renderer with the radius replaced by the interface
  distance in the cell's direction (`perturbed_eq_diffuse`), so every
  profile theorem holds for perturbed shapes "compared with the interface distance in that direction".
-/
import DropletsVerif.Lemmas.RealInst
import DropletsVerif.Generated.Profile
import DropletsVerif.Lemmas.BallConn
import Mathlib.Analysis.SpecialFunctions.Trigonometric.DerivHyp

namespace DV.C03
open DV.Gen DV.Render

/-! ### the smooth profile -/

theorem smooth_eq (R w d : ℝ) : diffuse_smooth R w d = 1 / 2 + 1 / 2 * Real.tanh ((R - d) / w) := by
  simp [diffuse_smooth]

theorem perturbed_eq_diffuse :
    (perturbed_smooth : ℝ → ℝ → ℝ → ℝ) = diffuse_smooth ∧
    (perturbed_inside : ℝ → ℝ → Bool) = diffuse_inside ∧ (spherical_inside : ℝ → ℝ → Bool) = diffuse_inside :=
  ⟨rfl, rfl, rfl⟩

/-- **Finite and strictly between 0 and 1** for every radius, width and distance -/
theorem profile_bounds (R w d : ℝ) : 0 < diffuse_smooth R w d ∧ diffuse_smooth R w d < 1 := by
  rw [smooth_eq]
  have h1 := Real.neg_one_lt_tanh ((R - d) / w)
  have h2 := Real.tanh_lt_one ((R - d) / w)
  constructor <;> linarith

theorem tanh_strictMono : StrictMono Real.tanh := by
  intro x y h
  rw [Real.tanh_eq_sinh_div_cosh, Real.tanh_eq_sinh_div_cosh, div_lt_div_iff₀ (Real.cosh_pos x) (Real.cosh_pos y)]
  have hs : 0 < Real.sinh (y - x) := Real.sinh_pos_iff.mpr (sub_pos.mpr h)
  rw [Real.sinh_sub] at hs
  linarith

theorem tanh_pos_iff {x : ℝ} : 0 < Real.tanh x ↔ 0 < x := by
  simpa using tanh_strictMono.lt_iff_lt (a := 0) (b := x)

/-- **A cell exceeds the midpoint exactly when its centre is inside the interface** -/
theorem profile_gt_half_iff (R w d : ℝ) (hw : 0 < w) : 1 / 2 < diffuse_smooth R w d ↔ d < R := by
  rw [smooth_eq, lt_add_iff_pos_right, mul_pos_iff_of_pos_left one_half_pos, tanh_pos_iff,
    div_pos_iff_of_pos_right hw, sub_pos]

/-- **For spherical droplets the value never increases with the distance** -/
theorem profile_antitone (R w d1 d2 : ℝ) (hw : 0 < w) (h : d1 ≤ d2) :
    diffuse_smooth R w d2 ≤ diffuse_smooth R w d1 := by
  rw [smooth_eq, smooth_eq]
  have := tanh_strictMono.monotone (div_le_div_of_nonneg_right (sub_le_sub_left h R) hw.le)
  linarith

/-- **Sharp droplets give exactly the indicator** of `dist < R` (width 0 or boolean image); stated for
the diffuse renderer, whose comparison the other two share (`perturbed_eq_diffuse`) -/
theorem sharp_is_indicator (R w d : ℝ) (b : Bool) (h : w = 0 ∨ b = true) :
    render_value diffuse_inside diffuse_smooth R w d b = if d < R then 1 else 0 := by
  rw [render_value, if_pos (h.imp_left (dnum_eqz_true w).mpr)]
  simp [diffuse_inside]

theorem smooth_branch (R w d : ℝ) (hw : w ≠ 0) :
    render_value diffuse_inside diffuse_smooth R w d false = diffuse_smooth R w d := by
  rw [render_value, if_neg (by simp [hw])]

/-! ### scaling to the requested outside / inside values -/

theorem scale_eq (vmin vmax x : ℝ) : scale_field vmin vmax x = vmin + (vmax - vmin) * x := by
  simp [scale_field]

/-- **The field lies between the requested values** (whichever is larger) -/
theorem scale_between (vmin vmax x : ℝ) (hx : 0 ≤ x ∧ x ≤ 1) :
    (vmin ≤ vmax → vmin ≤ scale_field vmin vmax x ∧ scale_field vmin vmax x ≤ vmax) ∧
    (vmax ≤ vmin → vmax ≤ scale_field vmin vmax x ∧ scale_field vmin vmax x ≤ vmin) := by
  rw [scale_eq]
  constructor <;> intro h
  · exact ⟨le_add_of_nonneg_right (mul_nonneg (sub_nonneg.mpr h) hx.1),
      le_sub_iff_add_le'.mp (mul_le_of_le_one_right (sub_nonneg.mpr h) hx.2)⟩
  · exact ⟨sub_le_iff_le_add'.mp (le_mul_of_le_one_right (sub_nonpos.mpr h) hx.2),
      add_le_of_nonpos_right (mul_nonpos_of_nonpos_of_nonneg (sub_nonpos.mpr h) hx.1)⟩

theorem scale_gt_mid_iff (vmin vmax x : ℝ) (h : vmin < vmax) :
    (vmin + vmax) / 2 < scale_field vmin vmax x ↔ 1 / 2 < x := by
  have e : scale_field vmin vmax x - (vmin + vmax) / 2 = (vmax - vmin) * (x - 1 / 2) := by
    rw [scale_eq]; ring
  rw [← sub_pos, e, mul_pos_iff_of_pos_left (sub_pos.mpr h), sub_pos]

/-- what C01 rests on: thresholding a smooth rendered field at the midpoint of the requested values is the
sharp test `dist < R` -/
theorem rendered_gt_mid_iff (vmin vmax R w d : ℝ) (h : vmin < vmax) (hw : 0 < w) :
    (vmin + vmax) / 2 < scale_field vmin vmax (render_value diffuse_inside diffuse_smooth R w d false) ↔ d < R := by
  rw [smooth_branch R w d hw.ne', scale_gt_mid_iff vmin vmax _ h, profile_gt_half_iff R w d hw]

/-! ### periodic metric and translation equivariance (exact, over ℚ) -/

theorem wrapDiff_periodic (L x : ℚ) (hL : L ≠ 0) (m : ℤ) : wrapDiff L (x + m * L) = wrapDiff L x :=
  WrapDiff.wrapDiff_periodic L x hL m

theorem wrapDiff_congr (L x : ℚ) (hL : L ≠ 0) : ∃ k : ℤ, wrapDiff L x = x - k * L :=
  WrapDiff.wrapDiff_congr L x

theorem wrapDiff_range (L x : ℚ) (hL : 0 < L) : -(L / 2) ≤ wrapDiff L x ∧ wrapDiff L x < L / 2 :=
  WrapDiff.wrapDiff_range L x hL

/-- **Taking the minimal image twice is taking it once.**  So `polar_coordinates`, which wraps the difference along the symmetry axis of
a periodic cylinder itself after py-pde's `difference_vector` (finding D12), changes nothing on a grid on which py-pde wraps that
component already, and stays right should py-pde come to wrap it too -/
theorem wrapDiff_idem (L x : ℚ) (hL : 0 < L) : wrapDiff L (wrapDiff L x) = wrapDiff L x :=
  WrapDiff.wrapDiff_of_mem L _ hL (wrapDiff_range L x hL).1 (wrapDiff_range L x hL).2

/-- **Translating a droplet by `m` whole cells along a periodic axis rolls the field by `m`
cells**, stated for what every droplet class sees of a cell, the difference vector: cell `i` has after
the shift the one cell `j` had before, whenever `i ≡ j + m (mod n)`. -/
theorem render_roll (a : Axis) (hp : a.periodic = true) (hdx : a.dx ≠ 0) (hn : a.n ≠ 0) (c : ℚ)
    (m k : ℤ) (i j : ℕ) (hij : (i : ℤ) = j + m + k * a.n) :
    a.diff (c + m * a.dx) i = a.diff c j := by
  have hL : a.length ≠ 0 := mul_ne_zero hdx (Nat.cast_ne_zero.mpr hn)
  have hi : (i : ℚ) = j + m + k * a.n := by exact_mod_cast hij
  rw [BallConn.diff_per a _ hp, BallConn.diff_per a _ hp, ← wrapDiff_periodic _ (a.centre j - c) hL k]
  congr 1
  unfold Axis.centre Axis.length
  rw [hi]; ring

/-- non-vacuity: a periodic axis of 8 unit cells, droplet moved by 3 cells -/
example :
    let a : Axis := ⟨0, 1, 8, true⟩
    a.diff ((5 : ℚ) / 4 + 3 * 1) 1 = a.diff (5 / 4) 6 := by decide +kernel

/-- **Translating a droplet by `m` whole cells along a periodic axis rolls the whole (sharp) image by `m` cells.**
For every grid, every centre and radius: the cell with multi-index `idx` is covered by the droplet shifted by
`m·dx` along the periodic axis `k` iff the cell obtained by moving `idx` back by `m` cells along that axis
(cyclically: index `j` with `i ≡ j + m (mod n)`) is covered by the unshifted droplet (`render_roll` is the
per-axis fact). -/
theorem image_roll (axes : List Axis) (ctr : List ℚ) (idx : List ℕ) (R : ℚ) (k : ℕ)
    (h1 : k < axes.length) (h2 : k < ctr.length) (h3 : k < idx.length)
    (hp : (axes.getD k default).periodic = true) (hdx : (axes.getD k default).dx ≠ 0) (hn : (axes.getD k default).n ≠ 0)
    (m t : ℤ) (j : ℕ) (hij : (idx.getD k 0 : ℤ) = j + m + t * (axes.getD k default).n) :
    inside axes (ctr.set k (ctr.getD k 0 + m * (axes.getD k default).dx)) R idx = inside axes ctr R (idx.set k j) := by
  have hd := render_roll _ hp hdx hn (ctr.getD k 0) m t _ j hij
  unfold inside
  rw [BallConn.dist2_eq_sum_min, BallConn.dist2_eq_sum_min, List.length_set, List.length_set]
  -- the two sums differ in the `k`-th summand only, and those summands agree by `render_roll`
  refine congrArg (decide <| · < R * R) (Finset.sum_congr rfl fun a _ => ?_)
  unfold BallConn.diffAt
  by_cases ha : k = a
  · rw [← ha, GridGeom.getD_set_self ctr h2, GridGeom.getD_set_self idx h3, hd]
  · rw [GridGeom.getD_set_ne ctr ha, GridGeom.getD_set_ne idx ha]

/-! ### emulsions: sum of the droplets' fields, clipped, independent of the order -/

theorem clip01_range (x : ℚ) : 0 ≤ clip01 x ∧ clip01 x ≤ 1 := by
  unfold clip01
  split
  · exact ⟨le_refl _, by norm_num⟩
  · split
    · exact ⟨by norm_num, le_refl _⟩
    · constructor <;> linarith

/-- **The emulsion's field does not depend on the order of the droplets** (exact arithmetic) -/
theorem emulsionField_perm (f1 f2 : List (List ℚ)) (n : ℕ) (h : f1.Perm f2) :
    emulsionField f1 n = emulsionField f2 n := by
  unfold emulsionField
  apply List.map_congr_left
  intro k _
  congr 1
  exact (h.map _).sum_eq

theorem emulsionField_range (fs : List (List ℚ)) (n : ℕ) : ∀ v ∈ emulsionField fs n, 0 ≤ v ∧ v ≤ 1 := by
  intro v hv
  unfold emulsionField at hv
  obtain ⟨k, _, rfl⟩ := List.mem_map.mp hv
  exact clip01_range _

end DV.C03
