/-
  C20 — Collections stay aligned and own their droplets under any sequence of edits.
  Theorems about the heap model Model/Coll.lean, which the correspondence check ties to the real
  classes by comparing values, order, times, dtypes AND alias structure after every operation of
  random / exhaustive operation sequences; then about the summary queries of Model/Stats.lean.
-/
import DropletsVerif.Model.Coll
import DropletsVerif.Model.Stats
import Mathlib.Tactic

namespace DV.C20

section collections
open DV.Coll

theorem alloc_ref (s : St) (v : Val) : (alloc s v).2 = s.heap.length := rfl
theorem alloc_heap (s : St) (v : Val) : (alloc s v).1.heap = s.heap ++ [v] := rfl

theorem val_alloc_old (s : St) (v : Val) (r : Ref) (h : r < s.heap.length) :
    (alloc s v).1.val r = s.val r := by
  simp [St.val, alloc, List.getD, List.getElem?_append_left h]

theorem val_alloc_new (s : St) (v : Val) : (alloc s v).1.val (alloc s v).2 = v := by
  simp [St.val, alloc, List.getD]

/-- writing through one object never changes the value seen through another object -/
theorem setVal_other (heap : List Val) (r r' : Ref) (f : Val → Val) (h : r ≠ r') :
    (heap.modify r f).getD r' ⟨0, 0, 0⟩ = heap.getD r' ⟨0, 0, 0⟩ := by
  simp [List.getD, h]

/-- **Copy on insertion.**  `append(d)` with the default `copy=True` stores a FRESH object (one
that nothing else refers to: its reference is the next unused heap cell) carrying the value of
`d`; the emulsion's other members and every other object are untouched. -/
theorem emInsert_copy (s : St) (e : Nat) (r : Ref) (force : Bool) (m : List Ref) (dt : Option Nat)
    (he : s.ems[e]? = some (m, dt)) (s1 : St) (h : emInsert s e r true force = (s1, .ok)) :
    ∃ dt', s1.ems[e]? = some (m ++ [s.heap.length], dt') ∧ s1.heap = s.heap ++ [s.val r] ∧
      s1.vars = s.vars ∧ s1.trs = s.trs ∧ s1.tcs = s.tcs ∧
      ∀ e', e' ≠ e → s1.ems[e']? = s.ems[e']? := by
  obtain ⟨hlt, -⟩ := List.getElem?_eq_some_iff.mp he
  unfold emInsert at h
  rw [he] at h
  simp only [if_true] at h
  split at h
  · cases h
  · cases h
    exact ⟨some (dt.getD (s.val r).layout), by simp [hlt], rfl, rfl, rfl, rfl, fun e' hne => by simp [Ne.symm hne]⟩

/-- **Isolation of an inserted copy** (both directions): after `append(d)` with default settings,
assigning to the caller's `d` does not change the value stored in the new slot, and assigning to
the stored droplet does not change `d` — for any allocated `d`.  Stated on the heap and the slot
that `emInsert_copy` gives; assigning (`setVar`, `emSetMember`) is `List.modify` at the reference. -/
theorem insert_copy_isolated (s : St) (r : Ref) (hr : r < s.heap.length) (f : Val → Val) :
    let heap1 := s.heap ++ [s.val r]          -- heap after the copying insert
    let slot := s.heap.length                 -- the stored object
    ((heap1.modify r f).getD slot ⟨0, 0, 0⟩ = s.val r) ∧
    ((heap1.modify slot f).getD r ⟨0, 0, 0⟩ = s.val r) := by
  intro heap1 slot
  have hne : r ≠ slot := Nat.ne_of_lt hr
  exact ⟨(setVal_other _ _ _ f hne).trans (val_alloc_new s _),
    (setVal_other _ _ _ f hne.symm).trans (val_alloc_old s _ r hr)⟩

theorem allocAll_concat (s : St) (rs : List Ref) (r : Ref) :
    allocAll s (rs ++ [r]) =
      ((alloc (allocAll s rs).1 ((allocAll s rs).1.val r)).1, (allocAll s rs).2 ++ [(allocAll s rs).1.heap.length]) := by
  rw [allocAll, List.foldl_append]
  rfl

/-- **Copies and slices consist of fresh objects**: copying the objects `rs` yields the next
`rs.length` unused heap cells, carrying the values of `rs`; nothing existing is modified.  `emCopy`,
copying `tcAppend`, `tcSlice` and `trSlice` copy with `allocAll`, `emSlice` and `emAdd` through `emInsert`
(`emInsert_copy`); neither fact is lifted to `step`. -/
theorem allocAll_fresh (s : St) (rs : List Ref) (h : ∀ r ∈ rs, r < s.heap.length) :
    (allocAll s rs).2 = List.range' s.heap.length rs.length ∧
    (allocAll s rs).1.heap = s.heap ++ rs.map s.val ∧
    (allocAll s rs).1.vars = s.vars ∧ (allocAll s rs).1.ems = s.ems ∧
    (allocAll s rs).1.tcs = s.tcs ∧ (allocAll s rs).1.trs = s.trs := by
  induction rs using List.reverseRecOn with
  | nil => exact ⟨rfl, (List.append_nil _).symm, rfl, rfl, rfl, rfl⟩
  | append_singleton rs r ih =>
    obtain ⟨h1, h2, h3⟩ := ih fun r' hr' => h r' (List.mem_append_left _ hr')
    -- `r` lies below the cells allocated so far, so it still holds its value in `s`
    have hv : (allocAll s rs).1.val r = s.val r := by
      have hr : r < s.heap.length := h r (List.mem_append_right _ (List.mem_singleton_self r))
      simp [St.val, h2, List.getD, List.getElem?_append_left hr]
    rw [allocAll_concat, hv]
    refine ⟨?_, ?_, h3⟩
    · simp [h1, h2, List.range'_concat]
    · simp [alloc_heap, h2]

theorem fresh_disjoint (s : St) (rs : List Ref) (h : ∀ r ∈ rs, r < s.heap.length) :
    ∀ r ∈ (allocAll s rs).2, ∀ r' ∈ rs, r ≠ r' := by
  intro r hr r' hr'
  rw [(allocAll_fresh s rs h).1] at hr
  exact (lt_of_lt_of_le (h r' hr') (List.mem_range'_1.mp hr).1).ne'

/-- every time course has as many times as emulsions, every track as many times as droplets -/
def Aligned (s : St) : Prop :=
  (∀ tc ∈ s.tcs, tc.1.length = tc.2.length) ∧ (∀ tr ∈ s.trs, tr.1.length = tr.2.length)

/-- same time courses and tracks: the helpers that allocate droplets and fill emulsions change neither -/
def SameTT (a b : St) : Prop := a.tcs = b.tcs ∧ a.trs = b.trs

theorem SameTT.trans {a b c : St} (h1 : SameTT a b) (h2 : SameTT b c) : SameTT a c :=
  ⟨h1.1.trans h2.1, h1.2.trans h2.2⟩

theorem SameTT.aligned {a b : St} (h : SameTT a b) (hb : Aligned b) : Aligned a := by
  unfold Aligned
  rw [h.1, h.2]
  exact hb

theorem emInsert_sameTT (s : St) (e : Nat) (r : Ref) (c f : Bool) : SameTT (emInsert s e r c f).1 s := by
  unfold emInsert
  split
  · exact ⟨rfl, rfl⟩
  · simp only
    split_ifs <;> exact ⟨rfl, rfl⟩

theorem foldl_sameTT {β : Type} (g : St → β → St) (hg : ∀ a x, SameTT (g a x) a) (l : List β) (s : St) :
    SameTT (l.foldl g s) s :=
  List.foldlRecOn l g ⟨rfl, rfl⟩ fun a ha x _ => (hg a x).trans ha

theorem emOfRefs_sameTT (s : St) (rs : List Ref) : SameTT (emOfRefs s rs).1 s :=
  foldl_sameTT _ (fun a x => emInsert_sameTT a _ x true false) rs (newEm s)

theorem emOfOwned_sameTT (s : St) (rs : List Ref) : SameTT (emOfOwned s rs).1 s :=
  foldl_sameTT _ (fun a x => emInsert_sameTT a _ x false false) rs (newEm s)

theorem allocAll_sameTT (s : St) (rs : List Ref) : SameTT (allocAll s rs).1 s :=
  List.foldlRecOn (motive := fun a : St × List Ref => SameTT a.1 s) rs _ ⟨rfl, rfl⟩ fun _ ha _ _ => ha

theorem emCopyOf_sameTT (s : St) (src : List Ref) : SameTT (emCopyOf s src).1 s :=
  (emOfOwned_sameTT _ _).trans (allocAll_sameTT s src)

theorem tcStored_sameTT (s : St) (eo : Nat) (copy : Bool) : SameTT (tcStored s eo copy).1 s := by
  unfold tcStored
  cases copy
  · exact emOfRefs_sameTT _ _
  · exact (emCopyOf_sameTT _ _).trans (emOfRefs_sameTT _ _)

theorem forall_mem_set {α : Type} {P : α → Prop} {l : List α} (h : ∀ p ∈ l, P p) (i : Nat) {q : α} (hq : P q) :
    ∀ p ∈ l.set i q, P p :=
  fun p hp => (List.mem_or_eq_of_mem_set hp).elim (h p) (· ▸ hq)

theorem forall_mem_concat {α : Type} {P : α → Prop} {l : List α} (h : ∀ p ∈ l, P p) {q : α} (hq : P q) :
    ∀ p ∈ l ++ [q], P p :=
  List.forall_mem_append.mpr ⟨h, List.forall_mem_singleton.mpr hq⟩

section
-- The helper operations are sealed: below they are used through their `SameTT` lemmas only.  Sealed, the
-- `(f s x).1` of a lemma is matched against the `let (a, b) := f s x` in a branch of `step` as it stands; left
-- reducible, `f` is unfolded (down to the folds over `emInsert`) in every such unification.
attribute [local irreducible] emInsert emOfRefs allocAll emCopyOf tcStored tcSliceMembers

theorem tcSliceMembers_sameTT (s : St) (part : List Nat) : SameTT (tcSliceMembers s part).1 s := by
  unfold tcSliceMembers
  exact List.foldlRecOn (motive := fun a : St × List Nat => SameTT a.1 s) part _ ⟨rfl, rfl⟩ fun _ ha _ _ =>
    ((tcStored_sameTT _ _ _).trans (emOfRefs_sameTT _ _)).trans ha

theorem step_aligned (s : St) (op : Op) (h : Aligned s) : Aligned (step s op).1 := by
  cases op with
  | newDrop | newEm => exact h
  | setVar | emRemoveSmall | emClear | emLink =>
    simp only [step]; split <;> exact h
  | emGet | emSetMember | tcGet | trGet =>
    simp only [step]; split
    · split <;> exact h
    · exact h
  | emAppend e x copy force =>
    simp only [step]; split
    · exact (emInsert_sameTT _ _ _ _ _).aligned h
    · exact h
  | emExtend e e2 =>
    simp only [step]; split
    · exact (foldl_sameTT _ (fun a x => emInsert_sameTT a _ x true false) _ s).aligned h
    · exact h
  | emCopy e minR =>
    simp only [step]; split
    · exact (emCopyOf_sameTT s _).aligned h
    · exact h
  | emSlice | emAdd =>
    simp only [step]; split
    · exact (emOfRefs_sameTT s _).aligned h
    · exact h
  | newTc => exact ⟨forall_mem_concat h.1 rfl, h.2⟩
  | newTr => exact ⟨h.1, forall_mem_concat h.2 rfl⟩
  | tcAppend tc e time copy =>
    simp only [step]; split
    · rename_i times members eo htc _
      have hal : times.length = members.length := h.1 _ (List.mem_of_getElem? htc)
      have h2 := (tcStored_sameTT s eo copy).aligned h
      exact ⟨forall_mem_set h2.1 tc (by simp [hal]), h2.2⟩
    · exact h
  | tcSlice tc lo hi =>
    simp only [step]; split
    · split
      · exact h
      · rename_i times members _ hlen
        have h2 := (tcSliceMembers_sameTT s ((members.take hi).drop lo)).aligned h
        exact ⟨forall_mem_concat h2.1 (not_not.mp hlen), h2.2⟩
    · exact h
  | tcClear tc =>
    simp only [step]; split
    · exact ⟨forall_mem_set h.1 tc rfl, h.2⟩
    · exact h
  | trAppend tr x time =>
    simp only [step]; split
    · rename_i times drops r htr _
      have hal : times.length = drops.length := h.2 _ (List.mem_of_getElem? htr)
      split_ifs
      · exact h
      · exact ⟨h.1, forall_mem_set h.2 tr (by simp [hal])⟩
    · exact h
  | trSlice tr lo hi =>
    simp only [step]; split
    · split
      · exact h
      · rename_i times drops _ hlen
        have h2 := (allocAll_sameTT s ((drops.take hi).drop lo)).aligned h
        exact ⟨h2.1, forall_mem_concat h2.2 (not_not.mp hlen)⟩
    · exact h

end

/-- **Times and members have equal length after every operation sequence** (from the empty state) -/
theorem times_members_aligned (ops : List Op) : Aligned (run ops).1 :=
  List.foldlRecOn (motive := fun a : St × List Res => Aligned a.1) ops _
    ⟨fun _ h => (nomatch h), fun _ h => (nomatch h)⟩ fun a ha op _ => step_aligned a.1 op ha

/-- the default time of an appended member: 0 for the first, last + 1 afterwards -/
theorem defaultTime_spec (ts : List Int) (t : Int) :
    defaultTime [] = 0 ∧ defaultTime (ts ++ [t]) = t + 1 := by
  simp [defaultTime]

/-- consistency requested: a droplet whose layout differs from the emulsion's dtype is rejected and
the state is unchanged -/
theorem consistency_rejects (s : St) (e : Nat) (r : Ref) (copy : Bool) (m : List Ref) (d : Nat)
    (he : s.ems[e]? = some (m, some d)) (hne : d ≠ (s.val r).layout) :
    emInsert s e r copy true = (s, .err "ValueError") := by
  unfold emInsert
  rw [he]
  simp [hne]

/-- non-vacuity: a concrete sequence with aliasing through `em[0]`, a copying append, a mutation
of the caller's droplet and a time-course append -/
example :
    let s := (run [.newDrop ⟨1, 2, 3⟩, .newEm, .emAppend 0 0 true false, .emGet 0 0, .setVar 0 9,
                   .newTc, .tcAppend 0 0 none true]).1
    s.vars = [0, 1] ∧ s.heap.map (·.radius) = [9, 3, 3, 3] ∧ s.tcs = [([0], [2])] := by decide

end collections

/-! ### summary queries (Model/Stats.lean) -/

open DV.Stats

theorem sum_eq (xs : List ℚ) : DV.Stats.sum xs = xs.sum := List.sum_eq_foldl.symm

/-- **Mean and spread of the sizes do not depend on the order of the members** (the spread: `variance_perm`;
the count is `List.Perm.length_eq`) -/
theorem mean_perm {xs ys : List ℚ} (h : xs.Perm ys) : mean xs = mean ys := by
  unfold mean; rw [sum_eq, sum_eq, h.sum_eq, h.length_eq]

theorem variance_perm {xs ys : List ℚ} (h : xs.Perm ys) : variance xs = variance ys := by
  unfold variance
  rw [sum_eq, sum_eq, mean_perm h, h.length_eq, (h.map _).sum_eq]

/-- both are taken over `select`, which is permuted along -/
theorem select_perm (b : Bool) {xs ys : List ℚ} (h : xs.Perm ys) : (select b xs).Perm (select b ys) := by
  unfold select; split
  · exact h
  · exact h.filter _

/-- the vanished droplets (radius 0) are exactly what `incl_vanished = False` leaves out -/
theorem select_spec (rs : List ℚ) (x : ℚ) : x ∈ select false rs ↔ x ∈ rs ∧ 0 < x := by
  unfold select; simp

theorem weightedWidth_perm {xs ys : List (ℚ × ℚ)} (h : xs.Perm ys) : weightedWidth xs = weightedWidth ys := by
  unfold weightedWidth
  rw [sum_eq, sum_eq, sum_eq, sum_eq, (h.map _).sum_eq, (h.map fun p : ℚ × ℚ => p.1 * p.2).sum_eq]

/-- `interface_width` is `Σ w·A / Σ A` over the droplets that have a width, unless the total area is 0 -/
theorem weightedWidth_def (ws : List (ℚ × ℚ)) (h : (ws.map (·.2)).sum ≠ 0) :
    weightedWidth ws = some ((ws.map fun p => p.1 * p.2).sum / (ws.map (·.2)).sum) := by
  unfold weightedWidth
  simp only [sum_eq]
  rw [if_neg (by simpa using h)]

/-! `minList` and `maxList` are the library's `List.min?` and `List.max?` with the comparison written out. -/

theorem minList_eq (l : List ℚ) : minList l = l.min? := by
  have : (fun a b : ℚ => if b < a then b else a) = min :=
    funext₂ fun a b => ((min_comm a b).trans (min_def_lt b a)).symm
  cases l with
  | nil => rfl
  | cons x xs => rw [minList, this, List.min?_cons']

theorem maxList_eq (l : List ℚ) : maxList l = l.max? := by
  have : (fun a b : ℚ => if a < b then b else a) = max := funext₂ fun a b => (max_def_lt a b).symm
  cases l with
  | nil => rfl
  | cons x xs => rw [maxList, this, List.max?_cons']

/-- the lower end of the bounding box is the smallest member -/
theorem minList_spec (l : List ℚ) (m : ℚ) (h : minList l = some m) : m ∈ l ∧ ∀ x ∈ l, m ≤ x :=
  List.min?_eq_some_iff.mp (minList_eq l ▸ h)

theorem maxList_spec (l : List ℚ) (m : ℚ) (h : maxList l = some m) : m ∈ l ∧ ∀ x ∈ l, x ≤ m :=
  List.max?_eq_some_iff.mp (maxList_eq l ▸ h)

/-- **the bounding box does not depend on the order of the members** -/
theorem bbox_perm {xs ys : List (ℚ × ℚ)} (h : xs.Perm ys) : lower xs = lower ys ∧ upper xs = upper ys := by
  -- least and greatest element are determined by membership
  unfold lower upper
  rw [minList_eq, minList_eq, maxList_eq, maxList_eq]
  constructor <;> ext m
  · simp only [List.min?_eq_some_iff, (h.map _).mem_iff]
  · simp only [List.max?_eq_some_iff, (h.map _).mem_iff]

/-- **filtering by radius keeps exactly the strictly larger droplets** (a droplet with radius equal to the
minimum — e.g. a vanished one for `min_radius = 0` — is removed); in order: `keepLarger_sublist` -/
theorem keepLarger_spec (rs : List ℚ) (m x : ℚ) : x ∈ keepLarger rs m ↔ x ∈ rs ∧ m < x := by
  unfold keepLarger; simp

theorem keepLarger_sublist (rs : List ℚ) (m : ℚ) : (keepLarger rs m).Sublist rs := List.filter_sublist

/-- `b` is the first index below `n` at which `d` is least -/
def FirstMin (d : ℕ → ℚ) (n b : ℕ) : Prop :=
  b < n ∧ (∀ j, j < n → d b ≤ d j) ∧ ∀ j, j < b → d b < d j

theorem FirstMin.succ {d : ℕ → ℚ} {n b : ℕ} (h : FirstMin d n b) :
    FirstMin d (n + 1) (if d n < d b then n else b) := by
  obtain ⟨h1, h2, h3⟩ := h
  split_ifs with hn
  · refine ⟨n.lt_succ_self, fun j hj => ?_, fun j hj => hn.trans_le (h2 j hj)⟩
    rcases Nat.lt_succ_iff_lt_or_eq.mp hj with hj | rfl
    · exact hn.le.trans (h2 j hj)
    · exact le_rfl
  · refine ⟨h1.trans n.lt_succ_self, fun j hj => ?_, h3⟩
    rcases Nat.lt_succ_iff_lt_or_eq.mp hj with hj | rfl
    · exact h2 j hj
    · exact not_lt.mp hn

/-- the loop of `nearestIdx` for any key `f`, over the rest `l.drop (n + 1)` from a state holding the first
minimiser `b` among the indices `≤ n`: it ends with the first minimiser of `l` -/
theorem nearest_fold (f : ℚ → ℚ) (l xs : List ℚ) : ∀ n b : ℕ, l.drop (n + 1) = xs → n < l.length →
    FirstMin (fun j => f (l.getD j 0)) (n + 1) b →
    FirstMin (fun j => f (l.getD j 0)) l.length
      (xs.foldl (fun (acc : ℕ × ℕ × ℚ) y =>
        let i := acc.1 + 1
        if f y < acc.2.2 then (i, i, f y) else (i, acc.2.1, acc.2.2)) (n, b, f (l.getD b 0))).2.1 := by
  induction xs with
  | nil =>
    intro n b hd hn h
    have : l.length = n + 1 := le_antisymm (List.drop_eq_nil_iff.mp hd) hn
    rwa [this]
  | cons y xs ih =>
    intro n b hd hn h
    have hlt : n + 1 < l.length := by
      by_contra hle
      rw [List.drop_eq_nil_iff.mpr (not_lt.mp hle)] at hd
      cases hd
    rw [List.drop_eq_getElem_cons hlt, List.cons.injEq] at hd
    have hy : y = l.getD (n + 1) 0 := by simp [hlt, hd.1]
    have := ih (n + 1) _ hd.2 hlt h.succ
    rw [List.foldl_cons, hy]
    split_ifs with hc
    · simpa only [if_pos hc] using this
    · simpa only [if_neg hc] using this

/-- **Nearest-time lookup returns the first member whose time is nearest to the query** — for ANY list of
times, sorted or not, with or without repeated values. -/
theorem nearestIdx_spec (ts : List ℚ) (t : ℚ) (i : ℕ) (h : nearestIdx ts t = some i) :
    i < ts.length ∧ (∀ j, j < ts.length → absR (ts.getD i 0 - t) ≤ absR (ts.getD j 0 - t)) ∧
      (∀ j, j < i → absR (ts.getD i 0 - t) < absR (ts.getD j 0 - t)) := by
  cases ts with
  | nil => simp [nearestIdx] at h
  | cons x xs =>
    simp only [nearestIdx, Option.some.injEq] at h
    subst h
    exact nearest_fold (fun y => absR (y - t)) (x :: xs) xs 0 0 rfl (Nat.succ_pos _)
      ⟨Nat.one_pos, fun j hj => by rw [Nat.lt_one_iff.mp hj], fun j hj => absurd hj j.not_lt_zero⟩

example : nearestIdx [0, 2, 10, 5] (39/10) = some 3 ∧ nearestIdx [1, 3, 3] 3 = some 1 ∧ nearestIdx [] 1 = none := by
  decide +kernel

example : keepLarger [0, 2, 0, 3] 0 = [2, 3] ∧ select false [0, 1, 0, 2] = [1, 2] ∧ duration [-2, 0, 5] = 7 := by
  decide +kernel

end DV.C20
