/-
  C06 — Tracking neither loses, duplicates nor alters droplets.
  Theorems about `DV.Track.trackAll` (Model/Track.lean) for EVERY list of frames, every overlap
  table, every distance table, every cut-off, both methods.

  A frame step of either method returns `extend t old links rest`.  Partition, shape and
  gap-freeness follow from that form and from what each method guarantees about `links`
  (`stepDistance_eq_extend`, `stepOverlap_eq_extend`).  `greedy_rec`, `stepOverlap_rec` and
  `trackAll_rec` are the invariant rules of the three loops.
-/
import DropletsVerif.Model.Track
-- C10 for `firstMin_eq_none`/`firstMin_eq_some`: `greedy` picks its pair with the `firstMin` of the overlap removal
import DropletsVerif.Props.C10
import DropletsVerif.Lemmas.ExceptMapM

namespace DV.C06
open DV.Track

variable {τ : Type}

theorem flatten_modify_append {β : Type} (l : List (List β)) (i : Nat) (x : β) (h : i < l.length) :
    (l.modify i (· ++ [x])).flatten.Perm (x :: l.flatten) := by
  obtain ⟨l₁, a, l₂, rfl, -, h⟩ := List.exists_of_modify (· ++ [x]) h
  rw [h]
  simpa using (List.perm_middle (a := x) (l₁ := l₁.flatten ++ a) (l₂ := l₂.flatten))

theorem modify_append_left {β : Type} (f : β → β) (l₁ l₂ : List β) {i : Nat} (h : i < l₁.length) :
    (l₁ ++ l₂).modify i f = l₁.modify i f ++ l₂ := by
  induction l₁ generalizing i with
  | nil => simp at h
  | cons a l ih =>
    cases i with
    | zero => rfl
    | succ i => simp [ih (Nat.lt_of_succ_lt_succ h)]

theorem lastOf_eq {tracks : List (Track τ)} {i : Nat} (h : i < tracks.length) :
    lastOf tracks i = lastId tracks[i] := by
  simp [lastOf, List.getD, List.getElem?_eq_getElem h]

theorem lastId_snoc (tr : Track τ) (d : Nat) (t : τ) : lastId (tr ++ [(d, t)]) = some d := by
  simp [lastId]

theorem applyLinks_snoc (t : τ) (tracks : List (Track τ)) (links : List (Nat × Nat)) (l : Nat × Nat) :
    applyLinks t tracks (links ++ [l]) = (applyLinks t tracks links).modify l.1 (· ++ [(l.2, t)]) := by
  simp [applyLinks]

theorem length_applyLinks (t : τ) (tracks : List (Track τ)) (links : List (Nat × Nat)) :
    (applyLinks t tracks links).length = tracks.length := by
  induction links using List.reverseRecOn with
  | nil => rfl
  | append_singleton links l ih => rw [applyLinks_snoc, List.length_modify, ih]

theorem getElem_applyLinks (t : τ) (tracks : List (Track τ)) {links : List (Nat × Nat)}
    (hnd : (links.map (·.1)).Nodup) (i : Nat) (h : i < (applyLinks t tracks links).length)
    (h' : i < tracks.length) :
    ((applyLinks t tracks links)[i] = tracks[i] ∧ i ∉ links.map (·.1)) ∨
      ∃ d, (i, d) ∈ links ∧ (applyLinks t tracks links)[i] = tracks[i] ++ [(d, t)] := by
  induction links using List.reverseRecOn with
  | nil => exact .inl ⟨rfl, by simp⟩
  | append_singleton links l ih =>
    rw [List.map_append, List.nodup_append] at hnd
    simp only [applyLinks_snoc, List.getElem_modify]
    rcases ih hnd.1 (length_applyLinks t tracks links ▸ h') with ⟨he, hi⟩ | ⟨d, hd, he⟩
    · by_cases hl : l.1 = i
      · exact .inr ⟨l.2, by simp [← hl], by rw [if_pos hl, he]⟩
      · exact .inl ⟨by rw [if_neg hl, he], by simpa [hi] using Ne.symm hl⟩
    · have hl : l.1 ≠ i := fun e =>
        hnd.2.2 i (List.mem_map.mpr ⟨_, hd, rfl⟩) l.1 (by simp) e.symm
      exact .inr ⟨d, by simp [hd], by rw [if_neg hl, he]⟩

theorem flatten_applyLinks (t : τ) (tracks : List (Track τ)) (links : List (Nat × Nat))
    (h : ∀ l ∈ links, l.1 < tracks.length) :
    (applyLinks t tracks links).flatten.Perm (links.map (fun l => (l.2, t)) ++ tracks.flatten) := by
  induction links using List.reverseRecOn with
  | nil => exact .refl _
  | append_singleton links l ih =>
    rw [applyLinks_snoc, List.map_append, List.append_assoc]
    refine (flatten_modify_append _ _ _ (length_applyLinks t tracks links ▸ h l (by simp))).trans ?_
    exact ((ih fun l hl => h l (by simp [hl])).cons _).trans List.perm_middle.symm

/-- What a frame step of either method returns: the droplets of `links` appended to the tracks
they are linked to, the droplets of `rest` starting tracks of their own. -/
def extend (t : τ) (old : List (Track τ)) (links : List (Nat × Nat)) (rest : List Nat) : List (Track τ) :=
  applyLinks t old links ++ rest.map fun d => [(d, t)]

theorem extend_nil (t : τ) (old : List (Track τ)) : extend t old [] [] = old := by
  simp [extend, applyLinks]

theorem extend_link (t : τ) (old : List (Track τ)) (links : List (Nat × Nat)) (rest : List Nat)
    {i : Nat} (d : Nat) (h : i < old.length) :
    (extend t old links rest).modify i (· ++ [(d, t)]) = extend t old (links ++ [(i, d)]) rest := by
  rw [extend, extend, applyLinks_snoc, modify_append_left _ _ _ (length_applyLinks t old links ▸ h)]

theorem extend_fresh (t : τ) (old : List (Track τ)) (links : List (Nat × Nat)) (rest : List Nat) (d : Nat) :
    extend t old links rest ++ [[(d, t)]] = extend t old links (rest ++ [d]) := by
  simp [extend]

/-- `links` and `rest` distribute the droplets `ds` of a frame: every link goes to an alive track,
every droplet is used once, and if `ok` holds no track gets two links -/
def Matches (alive ds : List Nat) (ok : Prop) (links : List (Nat × Nat)) (rest : List Nat) : Prop :=
  (∀ l ∈ links, l.1 ∈ alive) ∧ ds.Perm (links.map (·.2) ++ rest) ∧ (ok → (links.map (·.1)).Nodup)

theorem matches_nil (alive ds : List Nat) (ok : Prop) : Matches alive ds ok [] ds :=
  ⟨nofun, .refl _, fun _ => .nil⟩

theorem matches_mono {alive ds : List Nat} {ok ok' : Prop} {links : List (Nat × Nat)} {rest : List Nat}
    (hm : Matches alive ds ok links rest) (h : ok' → ok) : Matches alive ds ok' links rest :=
  ⟨hm.1, hm.2.1, fun h' => hm.2.2 (h h')⟩

theorem flatten_extend (t : τ) (old : List (Track τ)) {alive ds : List Nat} {ok : Prop}
    {links : List (Nat × Nat)} {rest : List Nat} (hm : Matches alive ds ok links rest)
    (hal : ∀ i ∈ alive, i < old.length) :
    (extend t old links rest).flatten.Perm (ds.map (fun d => (d, t)) ++ old.flatten) := by
  have hr : (rest.map fun d => [(d, t)]).flatten = rest.map fun d => (d, t) := by
    rw [List.flatten_eq_flatMap, List.flatMap_map]
    exact List.map_eq_flatMap.symm
  rw [extend, List.flatten_append, hr]
  refine ((flatten_applyLinks t old links fun l hl => hal _ (hm.1 l hl)).append_right _).trans ?_
  refine .trans ?_ ((hm.2.1.map _).symm.append_right _)
  simp only [List.map_append, List.map_map, List.append_assoc]
  exact List.perm_append_comm.append_left _

theorem lastOf_extend (t : τ) (old : List (Track τ)) {links : List (Nat × Nat)} (rest : List Nat)
    (hnd : (links.map (·.1)).Nodup) {i : Nat} (h : i < old.length) :
    (lastOf (extend t old links rest) i = lastOf old i ∧ i ∉ links.map (·.1)) ∨
      ∃ d, (i, d) ∈ links ∧ lastOf (extend t old links rest) i = some d := by
  have h' : i < (applyLinks t old links).length := length_applyLinks t old links ▸ h
  have hl : lastOf (extend t old links rest) i = lastId (applyLinks t old links)[i] := by
    rw [lastOf_eq (by rw [extend, List.length_append]; omega)]
    exact congrArg lastId (List.getElem_append_left h')
  rw [hl, lastOf_eq h]
  rcases getElem_applyLinks t old hnd i h' h with ⟨he, hi⟩ | ⟨d, hd, he⟩
  · exact .inl ⟨by rw [he], hi⟩
  · exact .inr ⟨d, hd, by rw [he, lastId_snoc]⟩

theorem hits_extend (ov : Nat → Nat → Bool) {alive : List Nat} (t : τ) (old : List (Track τ))
    {links : List (Nat × Nat)} (rest : List Nat) {d : Nat} (hal : ∀ i ∈ alive, i < old.length)
    (hnd : (links.map (·.1)).Nodup) (hno : ∀ l ∈ links, ov l.2 d = false) :
    hits ov alive (extend t old links rest) d =
      (hits ov alive old d).filter (· ∉ links.map (·.1)) := by
  rw [hits, hits, List.filter_filter]
  refine List.filter_congr fun i hi => ?_
  rcases lastOf_extend t old rest hnd (hal i hi) with ⟨he, hi⟩ | ⟨d', hd, he⟩
  · simp [he, hi]
  · have : i ∈ links.map (·.1) := List.mem_map.mpr ⟨_, hd, rfl⟩
    simp [he, hno _ hd, this]

/-- `b` is `a` possibly extended by ONE entry stamped `t` -/
def ExtendsByAtMostOne (t : τ) (a b : Track τ) : Prop := b = a ∨ ∃ d, b = a ++ [(d, t)]

/-- result of one step, track by track: old tracks are kept or extended by one entry with the
frame's time (only if alive), new tracks are singletons with the frame's time -/
def StepShape (t : τ) (alive : List Nat) (old new : List (Track τ)) : Prop :=
  ∃ ext fresh, new = ext ++ fresh ∧ ext.length = old.length ∧
    (∀ i (h : i < old.length) (h' : i < ext.length),
        ExtendsByAtMostOne t old[i] ext[i] ∧ (i ∉ alive → ext[i] = old[i])) ∧
    ∀ tr ∈ fresh, ∃ d, tr = [(d, t)]

theorem extend_shape (t : τ) (old : List (Track τ)) {alive ds : List Nat} {ok : Prop}
    {links : List (Nat × Nat)} {rest : List Nat} (hm : Matches alive ds ok links rest) (hok : ok) :
    StepShape t alive old (extend t old links rest) := by
  refine ⟨_, _, rfl, length_applyLinks .., fun i h h' => ?_, fun tr htr => ?_⟩
  · rcases getElem_applyLinks t old (hm.2.2 hok) i h' h with ⟨he, -⟩ | ⟨d, hd, he⟩
    · exact ⟨.inl he, fun _ => he⟩
    · exact ⟨.inr ⟨d, he⟩, fun hi => absurd (hm.1 _ hd) hi⟩
  · obtain ⟨d, -, rfl⟩ := List.mem_map.mp htr
    exact ⟨d, rfl⟩

def times (tr : Track τ) : List τ := tr.map (·.2)

/-- every track is non-empty and its times are a contiguous block of the frame times -/
def GapFree (ts : List τ) (trs : List (Track τ)) : Prop :=
  ∀ tr ∈ trs, tr ≠ [] ∧ times tr <:+: ts

theorem endOf_times (tr : Track τ) : endOf tr = (times tr).getLast? := by
  simp [endOf, times, List.getLast?_map]

theorem suffix_of_infix_last (ts l : List τ) (hnd : ts.Nodup) (hin : l <:+: ts)
    (hlast : l.getLast? = ts.getLast?) : l <:+ ts := by
  rcases eq_or_ne ts [] with rfl | hne
  · rw [List.infix_nil.mp hin]
  · refine hnd.suffix_of_getLast_mem_of_infix hin (hne := hne) (List.mem_of_getLast? ?_)
    rw [hlast, List.getLast?_eq_some_getLast hne]

variable [DecidableEq τ] {α : Type} [LinearOrder α]

theorem mem_aliveIdx {tracks : List (Track τ)} {tlast : Option τ} {i : Nat} :
    i ∈ aliveIdx tracks tlast ↔ ∃ h : i < tracks.length, endOf tracks[i] = tlast ∧ tracks[i] ≠ [] := by
  simp only [aliveIdx, List.mem_filter, List.mem_range]
  refine ⟨fun ⟨h, h'⟩ => ⟨h, ?_⟩, fun ⟨h, h'⟩ => ⟨h, ?_⟩⟩ <;>
    simpa [List.getD, List.getElem?_eq_getElem h] using h'

theorem aliveIdx_nodup (tracks : List (Track τ)) (tlast : Option τ) : (aliveIdx tracks tlast).Nodup :=
  List.nodup_range.filter _

theorem mem_cands {D : Nat → Nat → α} {maxd : Option α} {rows cols : List Nat} {i j : Nat} :
    (i, j) ∈ cands D maxd rows cols ↔ i ∈ rows ∧ j ∈ cols ∧ within maxd (D i j) = true := by
  simp [cands, and_assoc]

/-- Invariant rule for the matching loop; every property of `greedy` is an instance.  A stop means
that no candidate pair is left only if the fuel sufficed (`cols.length < fuel`, which `step` hands on). -/
theorem greedy_rec {D : Nat → Nat → α} {maxd : Option α}
    {P : Nat → List Nat → List Nat → List (Nat × Nat) × List Nat → Prop}
    (stop : ∀ fuel rows cols, (cols.length < fuel → cands D maxd rows cols = []) →
      P fuel rows cols ([], cols))
    (step : ∀ fuel rows cols i j out, (i, j) ∈ cands D maxd rows cols →
      (∀ q ∈ cands D maxd rows cols, D i j ≤ D q.1 q.2) →
      (cols.length < fuel + 1 → (cols.erase j).length < fuel) →
      P fuel (rows.erase i) (cols.erase j) out → P (fuel + 1) rows cols ((i, j) :: out.1, out.2))
    (fuel : Nat) (rows cols : List Nat) : P fuel rows cols (greedy D maxd fuel rows cols) := by
  induction fuel generalizing rows cols with
  | zero => exact stop 0 rows cols fun h => absurd h (Nat.not_lt_zero _)
  | succ fuel ih =>
    unfold greedy
    split
    · next h => exact stop _ _ _ fun _ => DV.C10.firstMin_eq_none h
    · next i j h =>
      obtain ⟨hm, hmin⟩ := DV.C10.firstMin_eq_some h
      have hj := (mem_cands.mp hm).2.1
      refine step fuel rows cols i j _ hm hmin (fun hf => ?_) (ih _ _)
      have := List.length_pos_of_mem hj
      rw [List.length_erase_of_mem hj]
      omega

theorem greedy_matches (D : Nat → Nat → α) (maxd : Option α) (fuel : Nat) (rows cols : List Nat) :
    Matches rows cols rows.Nodup (greedy D maxd fuel rows cols).1 (greedy D maxd fuel rows cols).2 := by
  refine greedy_rec (P := fun _ rows cols out => Matches rows cols rows.Nodup out.1 out.2)
    (fun _ _ _ _ => matches_nil ..) ?_ fuel rows cols
  intro fuel rows cols i j out hm _ _ ⟨hsub, hperm, hnd⟩
  obtain ⟨hi, hj, -⟩ := mem_cands.mp hm
  refine ⟨?_, (List.perm_cons_erase hj).trans (hperm.cons j), fun hr => ?_⟩
  · intro l hl
    rcases List.mem_cons.mp hl with rfl | hl
    · exact hi
    · exact List.mem_of_mem_erase (hsub l hl)
  · -- the later rows come from `rows.erase i`
    refine List.nodup_cons.mpr ⟨fun h => ?_, hnd (hr.erase i)⟩
    obtain ⟨l, hl, rfl⟩ := List.mem_map.mp h
    exact ((List.Nodup.mem_erase_iff hr).mp (hsub l hl)).1 rfl

/-- the distance step is of the common form, and no track gets two links -/
theorem stepDistance_eq_extend {dist : Nat → Nat → α} {maxd : Option α} {e : Bool}
    {tracks : List (Track τ)} {tlast : Option τ} {t : τ} {ds : List Nat} {trs : List (Track τ)}
    (h : stepDistance dist maxd e tracks tlast t ds = .ok trs) :
    ∃ links rest, trs = extend t tracks links rest ∧
      Matches (aliveIdx tracks tlast) ds True links rest := by
  simp only [stepDistance] at h
  split_ifs at h with h1 h2 h3
  · cases h
    exact ⟨[], ds, rfl, matches_nil ..⟩
  · cases h
    exact ⟨[], [], (extend_nil t tracks).symm, List.isEmpty_iff.mp h2 ▸ matches_nil ..⟩
  · cases h
    exact ⟨_, _, rfl, matches_mono (greedy_matches ..) fun _ => aliveIdx_nodup tracks tlast⟩

theorem stepOverlap_snoc (ov : Nat → Nat → Bool) (tracks : List (Track τ)) (tlast : Option τ) (t : τ)
    (ds : List Nat) (d : Nat) :
    stepOverlap ov tracks tlast t (ds ++ [d]) =
      procDroplet ov (aliveIdx tracks tlast) t (stepOverlap ov tracks tlast t ds) d := by
  simp [stepOverlap]

/-- Invariant rule for the overlap step: it is of the common form, with links and new tracks of
which `P` holds if `P` is kept by both ways in which a droplet is processed. -/
theorem stepOverlap_rec (ov : Nat → Nat → Bool) (tracks : List (Track τ)) (tlast : Option τ) (t : τ)
    {P : List Nat → List (Nat × Nat) → List Nat → Prop} (nil : P [] [] [])
    (link : ∀ ds links rest d i, P ds links rest →
      hits ov (aliveIdx tracks tlast) (extend t tracks links rest) d = [i] →
      P (ds ++ [d]) (links ++ [(i, d)]) rest)
    (fresh : ∀ ds links rest d, P ds links rest →
      (∀ i, hits ov (aliveIdx tracks tlast) (extend t tracks links rest) d ≠ [i]) →
      P (ds ++ [d]) links (rest ++ [d]))
    (ds : List Nat) :
    ∃ links rest, stepOverlap ov tracks tlast t ds = extend t tracks links rest ∧ P ds links rest := by
  induction ds using List.reverseRecOn with
  | nil => exact ⟨[], [], (extend_nil t tracks).symm, nil⟩
  | append_singleton ds d ih =>
    obtain ⟨links, rest, heq, hP⟩ := ih
    rw [stepOverlap_snoc, heq, procDroplet]
    split
    · next i hi =>
      have hia : i ∈ aliveIdx tracks tlast := List.mem_of_mem_filter (hi ▸ List.mem_singleton_self i)
      exact ⟨_, _, extend_link t tracks links rest d (mem_aliveIdx.mp hia).1, link _ _ _ _ _ hP hi⟩
    · next hne => exact ⟨_, _, extend_fresh t tracks links rest d, fresh _ _ _ _ hP hne⟩

/-- the overlap step is of the common form; no track gets two links when no droplet of the frame
overlaps a later one (a track extended by `d` is then not hit again) -/
theorem stepOverlap_eq_extend (ov : Nat → Nat → Bool) (tracks : List (Track τ)) (tlast : Option τ)
    (t : τ) (ds : List Nat) :
    ∃ links rest, stepOverlap ov tracks tlast t ds = extend t tracks links rest ∧
      Matches (aliveIdx tracks tlast) ds
        (ds.Nodup ∧ ∀ d ∈ ds, ∀ d' ∈ ds, d ≠ d' → ov d d' = false) links rest := by
  refine (stepOverlap_rec ov tracks tlast t (P := fun ds links rest =>
    Matches (aliveIdx tracks tlast) ds (ds.Pairwise fun a b => ov a b = false) links rest)
    (matches_nil ..) ?_ ?_ ds).imp fun links => Exists.imp fun rest h =>
      ⟨h.1, matches_mono h.2 fun ⟨hnd, hno⟩ => hnd.imp_of_mem fun ha hb => hno _ ha _ hb⟩
  · intro ds links rest d i ⟨hal, hperm, hnd⟩ hi
    have hmem := hi ▸ List.mem_singleton_self i
    refine ⟨fun l hl => (List.mem_append.mp hl).elim (hal l) fun hl =>
      List.mem_singleton.mp hl ▸ List.mem_of_mem_filter hmem, ?_, fun hpw => ?_⟩
    · rw [List.map_append, List.append_assoc]
      exact (hperm.append_right [d]).trans (by
        simpa using (List.perm_append_comm (l₁ := rest) (l₂ := [d])).append_left (links.map (·.2)))
    · obtain ⟨hpw, -, hd⟩ := List.pairwise_append.mp hpw
      rw [hits_extend ov t tracks rest (fun i hi => (mem_aliveIdx.mp hi).1) (hnd hpw) fun l hl =>
        hd _ (hperm.mem_iff.mpr (by simp [List.mem_map_of_mem hl])) d (by simp), List.mem_filter] at hmem
      rw [List.map_append]
      exact List.nodup_append_comm.mp (List.nodup_cons.mpr ⟨of_decide_eq_true hmem.2, hnd hpw⟩)
  · intro ds links rest d ⟨hal, hperm, hnd⟩ _
    exact ⟨hal, by simpa using hperm.append_right [d], fun hpw => hnd (List.pairwise_append.mp hpw).1⟩

/-- what the property assumes of a frame: with the overlap method its droplets are distinct and do
not overlap one another (the distance method needs nothing) -/
def FrameOK (m : Method α) (fr : τ × List Nat) : Prop :=
  match m with
  | .overlap ov => fr.2.Nodup ∧ ∀ d ∈ fr.2, ∀ d' ∈ fr.2, d ≠ d' → ov d d' = false
  | .distance _ _ _ => True

theorem stepFrame_eq_extend {m : Method α} {st st' : List (Track τ) × Option τ} {fr : τ × List Nat}
    (h : stepFrame m st fr = .ok st') :
    st'.2 = some fr.1 ∧ ∃ links rest, st'.1 = extend fr.1 st.1 links rest ∧
      Matches (aliveIdx st.1 st.2) fr.2 (FrameOK m fr) links rest := by
  cases m with
  | overlap ov =>
    cases h
    exact ⟨rfl, stepOverlap_eq_extend ov st.1 st.2 fr.1 fr.2⟩
  | distance dist maxd e =>
    simp only [stepFrame] at h
    split at h
    · next trs htrs =>
      cases h
      exact ⟨rfl, stepDistance_eq_extend htrs⟩
    · cases h

/-- Invariant rule for `trackAll`; `I done st` is read as in `foldlM_ok_rec`. -/
theorem trackAll_rec {m : Method α} {I : List (τ × List Nat) → List (Track τ) × Option τ → Prop}
    (init : I [] ([], none))
    (step : ∀ done st fr st', I done st → stepFrame m st fr = .ok st' → I (done ++ [fr]) st')
    {frames : List (τ × List Nat)} {trs : List (Track τ)} (h : trackAll m frames = .ok trs) :
    ∃ tl, I frames (trs, tl) := by
  rw [trackAll] at h
  cases hf : frames.foldlM (stepFrame m) (([] : List (Track τ)), (none : Option τ)) with
  | error s => rw [hf] at h; cases h
  | ok st' =>
    rw [hf] at h
    cases h
    exact ⟨st'.2, foldlM_ok_rec init step hf⟩

/-- all `(droplet, frame time)` pairs of a time course -/
def allEntries (frames : List (τ × List Nat)) : List (Entry τ) :=
  frames.flatMap fun fr => fr.2.map fun d => (d, fr.1)

theorem stepFrame_perm (m : Method α) (st st' : List (Track τ) × Option τ) (fr : τ × List Nat)
    (h : stepFrame m st fr = .ok st') :
    st'.1.flatten.Perm (fr.2.map (fun d => (d, fr.1)) ++ st.1.flatten) ∧ st'.2 = some fr.1 := by
  obtain ⟨h2, links, rest, heq, hm⟩ := stepFrame_eq_extend h
  exact ⟨heq ▸ flatten_extend fr.1 st.1 hm fun i hi => (mem_aliveIdx.mp hi).1, h2⟩

/-- **Partition.**  Whenever tracking returns, the tracks contain every droplet of every frame
exactly once, each stamped with its frame's time (as multisets of `(droplet, time)` pairs). -/
theorem track_partition (m : Method α) (frames : List (τ × List Nat)) (trs : List (Track τ))
    (h : trackAll m frames = .ok trs) : trs.flatten.Perm (allEntries frames) := by
  refine (trackAll_rec (I := fun done st => st.1.flatten.Perm (allEntries done)) (.refl _) ?_ h).elim
    fun _ h => h
  intro done st fr st' hI h
  have := (stepFrame_perm m st st' fr h).1.trans (List.perm_append_comm.trans (hI.append_right _))
  simpa [allEntries] using this

theorem stepDistance_total (dist : Nat → Nat → α) (maxd : Option α) (tracks : List (Track τ))
    (tlast : Option τ) (t : τ) (ds : List Nat) :
    ∃ trs, stepDistance dist maxd false tracks tlast t ds = .ok trs := by
  simp only [stepDistance, Bool.false_eq_true, if_false]
  split_ifs <;> exact ⟨_, rfl⟩

/-- **Totality.**  Overlap matching, and distance matching with the repaired empty-frame branch
(`emptyFrameRaises = false`), return tracks for every time course (frames without droplets included). -/
theorem track_total (m : Method α) (frames : List (τ × List Nat))
    (hm : (∃ ov, m = .overlap ov) ∨ ∃ dist maxd, m = .distance dist maxd false) :
    ∃ trs : List (Track τ), trackAll m frames = .ok trs := by
  have hstep : ∀ st fr, ∃ st', stepFrame (τ := τ) m st fr = .ok st' := by
    intro st fr
    rcases hm with ⟨ov, rfl⟩ | ⟨dist, maxd, rfl⟩
    · exact ⟨_, rfl⟩
    · obtain ⟨trs, h⟩ := stepDistance_total dist maxd st.1 st.2 fr.1 fr.2
      exact ⟨_, by rw [stepFrame, h]⟩
  obtain ⟨st', h⟩ := foldlM_total _ hstep frames (([] : List (Track τ)), (none : Option τ))
  exact ⟨st'.1, by rw [trackAll, h]; rfl⟩

/-- the behaviour BEFORE the repair (finding D6): a droplet followed by an empty frame raises -/
theorem track_total_counterexample_before_fix :
    trackAll (τ := Nat) (α := ℚ) (.distance (fun _ _ => 0) none true) [(0, [0]), (1, [])]
      = .error "ValueError" := by decide +kernel

/-- **Distance method: every existing track is kept or extended by exactly one entry stamped with
the frame's time (only tracks that ended at the previous time), every new track is a singleton with
that time.**  Which droplets the entries are is `track_partition`; with distinct frame times this
gives "at most one droplet per frame and a gap-free run of consecutive frames" (`track_gap_free`). -/
theorem stepDistance_shape (dist : Nat → Nat → α) (maxd : Option α) (e : Bool) (tracks : List (Track τ))
    (tlast : Option τ) (t : τ) (ds : List Nat) (trs : List (Track τ))
    (h : stepDistance dist maxd e tracks tlast t ds = .ok trs) :
    StepShape t (aliveIdx tracks tlast) tracks trs := by
  obtain ⟨links, rest, rfl, hm⟩ := stepDistance_eq_extend h
  exact extend_shape t tracks hm trivial

/-- **Overlap method, frames whose droplets do not overlap one another: the same shape.** -/
theorem stepOverlap_shape (ov : Nat → Nat → Bool) (tracks : List (Track τ)) (tlast : Option τ) (t : τ)
    (ds : List Nat) (hnd : ds.Nodup) (hno : ∀ d ∈ ds, ∀ d' ∈ ds, d ≠ d' → ov d d' = false) :
    StepShape t (aliveIdx tracks tlast) tracks (stepOverlap ov tracks tlast t ds) := by
  obtain ⟨links, rest, heq, hm⟩ := stepOverlap_eq_extend ov tracks tlast t ds
  exact heq ▸ extend_shape t tracks hm ⟨hnd, hno⟩

theorem gapfree_step (ts : List τ) (t : τ) (hnd : (ts ++ [t]).Nodup) (old new : List (Track τ))
    (hshape : StepShape t (aliveIdx old ts.getLast?) old new) (hold : GapFree ts old) :
    GapFree (ts ++ [t]) new := by
  obtain ⟨ext, fresh, rfl, hlen, hext, hfresh⟩ := hshape
  intro tr htr
  rcases List.mem_append.mp htr with h | h
  · obtain ⟨i, hi, rfl⟩ := List.getElem_of_mem h
    have hio : i < old.length := hlen ▸ hi
    obtain ⟨hone, hdead⟩ := hext i hio hi
    obtain ⟨hne, hin⟩ := hold _ (List.getElem_mem hio)
    have hkeep : ext[i] = old[i] → ext[i] ≠ [] ∧ times ext[i] <:+: ts ++ [t] := fun he =>
      he ▸ ⟨hne, hin.trans (List.prefix_append ts [t]).isInfix⟩
    rcases hone with he | ⟨d, he⟩
    · exact hkeep he
    · by_cases ha : i ∈ aliveIdx old ts.getLast?
      · -- an alive track ends with the last time, so its times are a suffix
        obtain ⟨_, hend, _⟩ := mem_aliveIdx.mp ha
        obtain ⟨pre, hpre⟩ := suffix_of_infix_last ts _ (List.nodup_append.mp hnd).1 hin
          (endOf_times _ ▸ hend)
        refine he ▸ ⟨List.append_ne_nil_of_right_ne_nil _ (List.cons_ne_nil _ _), pre, [], ?_⟩
        rw [times, List.map_append, List.append_nil, ← List.append_assoc]
        exact congrArg (· ++ [t]) hpre
      · exact hkeep (hdead ha)
  · obtain ⟨d, rfl⟩ := hfresh tr h
    exact ⟨List.cons_ne_nil _ _, ts, [], List.append_nil _⟩

/-- **Gap-free runs, one droplet per frame.**  For frames with distinct times (the property
quantifies over strictly increasing ones) whose droplets do not overlap one another, every returned
track is non-empty, its times are a CONTIGUOUS block of the sequence of frame times, and therefore
no time occurs twice in a track. -/
theorem track_gap_free (m : Method α) (frames : List (τ × List Nat)) (trs : List (Track τ))
    (hnd : (frames.map (·.1)).Nodup) (hok : ∀ fr ∈ frames, FrameOK m fr)
    (h : trackAll m frames = .ok trs) :
    ∀ tr ∈ trs, tr ≠ [] ∧ times tr <:+: frames.map (·.1) ∧ (times tr).Nodup := by
  refine (trackAll_rec (I := fun done st => (done.map (·.1)).Nodup → (∀ fr ∈ done, FrameOK m fr) →
    st.2 = (done.map (·.1)).getLast? ∧ GapFree (done.map (·.1)) st.1)
    (fun _ _ => ⟨rfl, fun tr htr => by cases htr⟩) ?_ h).elim fun tl hI tr htr => ?_
  · intro done st fr st' hI h hnd hok
    rw [List.map_append] at hnd ⊢
    obtain ⟨h2, hg⟩ := hI (List.nodup_append.mp hnd).1 fun f hf => hok f (by simp [hf])
    obtain ⟨h2', links, rest, heq, hm⟩ := stepFrame_eq_extend h
    refine ⟨by simp [h2'], gapfree_step _ fr.1 hnd st.1 _ ?_ hg⟩
    exact heq ▸ h2 ▸ extend_shape fr.1 st.1 hm (hok fr (by simp))
  · obtain ⟨hne, hin⟩ := (hI hnd hok).2 tr htr
    exact ⟨hne, hin, hin.sublist.nodup hnd⟩

/-- the hypothesis on the times is needed: with a repeated frame time a track that ended earlier
is taken for alive and gets a gap -/
example :
    trackAll (τ := Nat) (α := ℚ) (.distance (fun _ _ => 0) none false) [(1, [0]), (2, []), (1, []), (3, [1])]
      = .ok [[(0, 1), (1, 3)]] := by decide +kernel

/-- non-vacuity / sanity: a concrete history with a birth, a death and an empty frame -/
example :
    trackAll (τ := Nat) (α := ℚ) (.distance (fun a b => if a + 1 = b then 1 else 5) (some 2) false)
      [(0, [0]), (1, [1, 2]), (2, []), (3, [3])]
      = .ok [[(0, 0), (1, 1)], [(2, 1)], [(3, 3)]] := by decide +kernel

end DV.C06
