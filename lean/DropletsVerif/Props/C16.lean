/-
  C16 — The structure factor is a normalised, symmetry-invariant power spectrum.
  The grid is a finite abelian group `G` (for a periodic Cartesian grid: `Π ZMod n_i`); the wave
  vectors are its characters.  `get_structure_factor` computes, for every non-trivial character,
      sf(ψ) = |Σ_g f(g) ψ(−g)|² / (N · Σ_g f(g)²)
  (`fftn(norm="ortho")`, zero mode dropped by `.flat[1:]`, division by `np.dot(f, f)`); that
  `fftn` is this sum is the contract of the FFT library (checked against a naive DFT by the
  correspondence).  Everything below holds for every finite abelian group, i.e. every dimension,
  every shape (even or odd) and every field.
-/
import Mathlib.Analysis.Fourier.FiniteAbelian.PontryaginDuality
import Mathlib.Tactic

namespace DV.C16
open Finset ComplexConjugate

variable {G : Type} [AddCommGroup G] [Fintype G] [DecidableEq G]

/-- discrete Fourier transform at the character `ψ` -/
noncomputable def dft (f : G → ℂ) (ψ : AddChar G ℂ) : ℂ := ∑ g, f g * ψ (-g)

/-- `np.dot(f, f)` for a real field -/
noncomputable def energy (f : G → ℂ) : ℝ := ∑ g, ‖f g‖ ^ 2

noncomputable def sf (f : G → ℂ) (ψ : AddChar G ℂ) : ℝ :=
  ‖dft f ψ‖ ^ 2 / ((Fintype.card G : ℝ) * energy f)

section
omit [DecidableEq G]

theorem dft_add (f h : G → ℂ) (ψ : AddChar G ℂ) : dft (fun g => f g + h g) ψ = dft f ψ + dft h ψ := by
  simp only [dft, add_mul, sum_add_distrib]

theorem dft_smul (c : ℂ) (f : G → ℂ) (ψ : AddChar G ℂ) : dft (fun g => c * f g) ψ = c * dft f ψ := by
  simp only [dft, mul_assoc, mul_sum]

theorem dft_zero (f : G → ℂ) : dft f 0 = ∑ g, f g := by
  simp only [dft, AddChar.zero_apply, mul_one]

theorem dft_translate (f : G → ℂ) (ψ : AddChar G ℂ) (a : G) :
    dft (fun g => f (g - a)) ψ = ψ (-a) * dft f ψ := by
  unfold dft
  rw [mul_sum]
  refine Fintype.sum_equiv (Equiv.subRight a) _ _ fun g => ?_
  rw [Equiv.subRight_apply, mul_left_comm, ← AddChar.map_add_eq_mul, ← neg_add, add_sub_cancel]

theorem dft_comp_equiv (f : G → ℂ) (ψ : AddChar G ℂ) (σ : G ≃+ G) :
    dft (fun g => f (σ g)) ψ = dft f (ψ.compAddMonoidHom σ.symm.toAddMonoidHom) :=
  Fintype.sum_equiv σ.toEquiv _ _ fun g => by
    show f (σ g) * ψ (-g) = f (σ g) * ψ (σ.symm (-σ g))
    rw [← map_neg, σ.symm_apply_apply]

theorem dft_conj (f : G → ℂ) (ψ : AddChar G ℂ) : dft (fun g => conj (f g)) ψ⁻¹ = conj (dft f ψ) := by
  simp only [dft, map_sum, map_mul, AddChar.inv_apply, ← AddChar.map_neg_eq_conj]

/-- DFT of a single character: `N` at that character, 0 elsewhere (orthogonality of characters) -/
theorem dft_char (χ ψ : AddChar G ℂ) :
    dft (fun g => χ g) ψ = if χ = ψ then (Fintype.card G : ℂ) else 0 := by
  simp only [dft, ← AddChar.sub_apply, AddChar.sum_eq_ite, sub_eq_zero]

theorem dft_const (c : ℂ) (ψ : AddChar G ℂ) :
    dft (fun _ => c) ψ = if ψ = 0 then c * (Fintype.card G : ℂ) else 0 := by
  have h := dft_smul c (fun g => (0 : AddChar G ℂ) g) ψ
  rw [dft_char, mul_ite, mul_zero] at h
  simpa only [AddChar.zero_apply, mul_one, eq_comm (a := ψ)] using h

theorem energy_smul (c : ℂ) (f : G → ℂ) : energy (fun g => c * f g) = ‖c‖ ^ 2 * energy f := by
  simp only [energy, norm_mul, mul_pow, mul_sum]

theorem energy_comp_bijective (f : G → ℂ) {e : G → G} (he : e.Bijective) :
    energy (fun g => f (e g)) = energy f :=
  he.sum_comp fun g => ‖f g‖ ^ 2

theorem energy_nonneg (f : G → ℂ) : 0 ≤ energy f := sum_nonneg fun _ _ => sq_nonneg _

@[simp] theorem compAddMonoidHom_id (ψ : AddChar G ℂ) : ψ.compAddMonoidHom (AddMonoidHom.id G) = ψ := rfl

/-- scaling, translation and grid automorphism in one statement: `|dft|²` and the energy pick up the same factor `|c|²`, the phase
of the translation has modulus 1, and `σ` re-indexes the spectrum by the dual map `ψ ↦ ψ ∘ σ⁻¹` -/
theorem sf_affine (f : G → ℂ) (ψ : AddChar G ℂ) (c : ℂ) (hc : c ≠ 0) (σ : G ≃+ G) (a : G) :
    sf (fun g => c * f (σ g - a)) ψ = sf f (ψ.compAddMonoidHom σ.symm.toAddMonoidHom) := by
  have he : Function.Bijective fun g => σ g - a := (Equiv.subRight a).bijective.comp σ.bijective
  unfold sf
  rw [dft_smul, dft_comp_equiv (fun g => f (g - a)), dft_translate, energy_smul,
    energy_comp_bijective f he, norm_mul, norm_mul, AddChar.norm_apply, one_mul, mul_pow,
    mul_left_comm, mul_div_mul_left _ _ (pow_ne_zero 2 (norm_ne_zero_iff.mpr hc))]

/-- **Unchanged under every symmetry of the grid** (group automorphism `σ` of `G`: reflections,
permutations of axes of equal length, …): the spectrum is re-indexed by the dual map. -/
theorem sf_comp_equiv (f : G → ℂ) (ψ : AddChar G ℂ) (σ : G ≃+ G) :
    sf (fun g => f (σ g)) ψ = sf f (ψ.compAddMonoidHom σ.symm.toAddMonoidHom) := by
  simpa using sf_affine f ψ 1 one_ne_zero σ 0

theorem sf_real_symm (f : G → ℂ) (hreal : ∀ g, conj (f g) = f g) (ψ : AddChar G ℂ) :
    sf f ψ⁻¹ = sf f ψ := by
  have h := dft_conj f ψ
  simp only [hreal] at h
  rw [sf, h, Complex.norm_conj, sf]

end

/-- **Non-negative** -/
theorem sf_nonneg (f : G → ℂ) (ψ : AddChar G ℂ) : 0 ≤ sf f ψ :=
  div_nonneg (sq_nonneg _) (mul_nonneg (Nat.cast_nonneg _) (energy_nonneg f))

/-- **Unchanged when the field is multiplied by any non-zero constant** -/
theorem sf_scale_invariant (f : G → ℂ) (ψ : AddChar G ℂ) (c : ℂ) (hc : c ≠ 0) :
    sf (fun g => c * f g) ψ = sf f ψ := by
  simpa using sf_affine f ψ c hc (AddEquiv.refl G) 0

/-- **Unchanged when the field is translated by whole cells** (any group element `a`) -/
theorem sf_translate_invariant (f : G → ℂ) (ψ : AddChar G ℂ) (a : G) :
    sf (fun g => f (g - a)) ψ = sf f ψ := by
  simpa using sf_affine f ψ 1 one_ne_zero (AddEquiv.refl G) a

/-- **Reflecting a real field leaves the structure factor unchanged, wave vector by wave vector** (`ψ ∘ (−·)⁻¹` is `ψ⁻¹` by definition,
and a real field has the same value at `ψ⁻¹` as at `ψ`) -/
theorem sf_reflect_invariant (f : G → ℂ) (hreal : ∀ g, conj (f g) = f g) (ψ : AddChar G ℂ) :
    sf (fun g => f (-g)) ψ = sf f ψ :=
  (sf_comp_equiv f ψ (AddEquiv.neg G)).trans (sf_real_symm f hreal ψ)

/-- the permutation of the wave vectors induced by a symmetry `σ` of the grid: `ψ ↦ ψ ∘ σ⁻¹` -/
noncomputable def dualEquiv (σ : G ≃+ G) : AddChar G ℂ ≃ AddChar G ℂ where
  toFun ψ := ψ.compAddMonoidHom σ.symm.toAddMonoidHom
  invFun ψ := ψ.compAddMonoidHom σ.toAddMonoidHom
  left_inv ψ := by ext g; simp
  right_inv ψ := by ext g; simp

/-- **The structure factor as a multiset of (wave number, value) pairs is unchanged under every symmetry of the grid that preserves the
wave numbers** — reflections (`fftRep_neg`: `|k|` of `ψ⁻¹` equals that of `ψ`) and permutations of axes of equal length: the pairs (here
over all wave vectors, the zero mode included) are the same, listed in another order.  This is the form in which the property states the
invariance (the arrays returned are sorted by nothing in particular). -/
theorem sf_multiset_invariant (f : G → ℂ) (σ : G ≃+ G) (kmag : AddChar G ℂ → ℝ)
    (hk : ∀ ψ : AddChar G ℂ, kmag (ψ.compAddMonoidHom σ.symm.toAddMonoidHom) = kmag ψ) :
    (Finset.univ : Finset (AddChar G ℂ)).val.map (fun ψ => (kmag ψ, sf (fun g => f (σ g)) ψ)) =
    (Finset.univ : Finset (AddChar G ℂ)).val.map (fun ψ => (kmag ψ, sf f ψ)) := by
  calc _ = (univ.val.map (dualEquiv σ)).map fun ψ => (kmag ψ, sf f ψ) := by
        rw [Multiset.map_map]
        exact Multiset.map_congr rfl fun ψ _ => congrArg₂ Prod.mk (hk ψ).symm (sf_comp_equiv f ψ σ)
    _ = _ := by rw [Multiset.map_univ_val_equiv]

/-- Fourier inversion (orthogonality of the evaluations `ψ ↦ ψ g`) -/
theorem dft_inversion (f : G → ℂ) (g : G) :
    ∑ ψ : AddChar G ℂ, dft f ψ * ψ g = (Fintype.card G : ℂ) * f g := by
  simp only [dft, sum_mul, mul_assoc, ← AddChar.map_add_eq_mul]
  rw [sum_comm]
  simp only [← mul_sum, AddChar.sum_apply_eq_ite, neg_add_eq_zero, mul_ite, mul_zero, sum_ite_eq',
    mem_univ, if_true, mul_comm]

/-- Plancherel: the squared moduli of all Fourier coefficients add up to `N · Σ|f|²` -/
theorem parseval (f : G → ℂ) : ∑ ψ : AddChar G ℂ, ‖dft f ψ‖ ^ 2 = (Fintype.card G : ℝ) * energy f := by
  apply Complex.ofReal_injective
  simp only [energy, Complex.ofReal_sum, Complex.ofReal_mul, Complex.ofReal_pow, Complex.ofReal_natCast,
    ← Complex.mul_conj']
  -- expand only the conjugated factor, so that the sum over `ψ` is an inverse transform
  calc ∑ ψ : AddChar G ℂ, dft f ψ * conj (dft f ψ)
      = ∑ ψ : AddChar G ℂ, ∑ g, conj (f g) * (dft f ψ * ψ g) := by
        refine sum_congr rfl fun ψ _ => ?_
        rw [dft, map_sum, mul_sum]
        simp only [map_mul, ← AddChar.map_neg_eq_conj, neg_neg, mul_left_comm]
    _ = _ := by
        rw [sum_comm, mul_sum]
        refine sum_congr rfl fun g _ => ?_
        rw [← mul_sum, dft_inversion, mul_left_comm, mul_comm (f g)]

/-- **Sums to one minus the squared-mean fraction of the field** (Parseval, zero mode dropped):
`Σ_{ψ≠0} sf(ψ) = 1 − |Σ f|² / (N Σ |f|²) = 1 − N·mean² / Σ f²` -/
theorem sf_sum (f : G → ℂ) (hf : energy f ≠ 0) :
    ∑ ψ ∈ (Finset.univ.erase (0 : AddChar G ℂ)), sf f ψ =
      1 - ‖∑ g, f g‖ ^ 2 / ((Fintype.card G : ℝ) * energy f) := by
  have hN : (Fintype.card G : ℝ) ≠ 0 := Nat.cast_ne_zero.mpr Fintype.card_ne_zero
  unfold sf
  rw [← sum_div, sum_erase_eq_sub (mem_univ _), parseval, dft_zero, sub_div, div_self (mul_ne_zero hN hf)]

/-! ### plane waves: the spectrum is two equal peaks at ± the wave vector (cited by C17 `mean_length_single_shell`) -/

/-- a real plane wave with complex amplitude `a` (modulus = half the amplitude, argument = phase) along the wave vector `χ₀`,
on a constant offset `c`:  `f(g) = a χ₀(g) + conj a · χ₀(−g) + c = 2|a| cos(k₀·g + arg a) + c` -/
noncomputable def planeWave (a : ℂ) (χ₀ : AddChar G ℂ) (c : ℂ) (g : G) : ℂ := a * χ₀ g + conj a * χ₀⁻¹ g + c

omit [DecidableEq G] in
theorem dft_planeWave (a : ℂ) (χ₀ : AddChar G ℂ) (c : ℂ) (ψ : AddChar G ℂ) :
    dft (planeWave a χ₀ c) ψ = (Fintype.card G : ℂ) *
      ((if χ₀ = ψ then a else 0) + (if χ₀⁻¹ = ψ then conj a else 0) + (if ψ = 0 then c else 0)) := by
  show dft (fun g => a * χ₀ g + conj a * χ₀⁻¹ g + c) ψ = _
  rw [dft_add, dft_add, dft_smul, dft_smul, dft_char, dft_char, dft_const]
  simp only [mul_ite, mul_zero, add_mul, ite_mul, zero_mul, mul_comm (Fintype.card G : ℂ)]

/-- **The spectrum of a plane wave is supported on ± its wave vector**: every other non-zero wave vector carries nothing -/
theorem plane_wave_support (a : ℂ) (χ₀ : AddChar G ℂ) (c : ℂ) (ψ : AddChar G ℂ) (h0 : ψ ≠ 0) (h1 : ψ ≠ χ₀) (h2 : ψ ≠ χ₀⁻¹) :
    sf (planeWave a χ₀ c) ψ = 0 := by
  rw [sf, dft_planeWave, if_neg h1.symm, if_neg h2.symm, if_neg h0]
  simp

/-- the two peaks have the same height `|a|² N / Σ f²` -/
theorem plane_wave_peaks (a : ℂ) (χ₀ : AddChar G ℂ) (c : ℂ) (hχ : χ₀ ≠ 0) (hne : χ₀ ≠ χ₀⁻¹) :
    sf (planeWave a χ₀ c) χ₀ = ‖a‖ ^ 2 * (Fintype.card G : ℝ) / energy (planeWave a χ₀ c) ∧
    sf (planeWave a χ₀ c) χ₀⁻¹ = sf (planeWave a χ₀ c) χ₀ := by
  have hN : (Fintype.card G : ℝ) ≠ 0 := Nat.cast_ne_zero.mpr Fintype.card_ne_zero
  have hinv0 : χ₀⁻¹ ≠ 0 := inv_ne_one.mpr hχ
  have h1 : dft (planeWave a χ₀ c) χ₀ = (Fintype.card G : ℂ) * a := by
    rw [dft_planeWave, if_pos rfl, if_neg hne.symm, if_neg hχ, add_zero, add_zero]
  have h2 : dft (planeWave a χ₀ c) χ₀⁻¹ = (Fintype.card G : ℂ) * conj a := by
    rw [dft_planeWave, if_neg hne, if_pos rfl, if_neg hinv0, add_zero, zero_add]
  constructor
  · rw [sf, h1, norm_mul, Complex.norm_natCast, mul_pow, sq (Fintype.card G : ℝ), mul_assoc,
      mul_div_mul_left _ _ hN, mul_comm]
  · rw [sf, sf, h1, h2, norm_mul, norm_mul, Complex.norm_conj]

omit [DecidableEq G] in
/-- the plane wave is a REAL field when the offset is real (so it is in the domain of the property) -/
theorem planeWave_real (a : ℂ) (χ₀ : AddChar G ℂ) (c : ℝ) (g : G) :
    conj (planeWave a χ₀ (c : ℂ) g) = planeWave a χ₀ (c : ℂ) g := by
  simp only [planeWave, map_add, map_mul, Complex.conj_conj, Complex.conj_ofReal, AddChar.inv_apply,
    ← AddChar.map_neg_eq_conj, neg_neg, add_comm (a * _)]

/-! ### wave numbers: `2π · fftfreq(n, d = dx)`, i.e. `2π m / (n dx)` with `m` the centred representative -/

/-- `np.fft.fftfreq(n)[j] · n`: the representative of `j` in `[−n/2, n/2)`, as numpy chooses it (the expression of `DV.SF.fftRep`, which
the driver runs) -/
def fftRep (n j : ℕ) : ℤ := if 2 * j < n + n % 2 then (j : ℤ) else (j : ℤ) - n

/-- the centred representatives for an even and an odd axis (Nyquist index of `n = 4` negative, as in numpy) -/
example : (fftRep 4 0, fftRep 4 1, fftRep 4 2, fftRep 4 3, fftRep 5 2, fftRep 5 3) = (0, 1, -2, -1, 2, -2) := by decide

/-- wave number of index `j` along an axis with `n` cells of size `dx` (the `k2s` expression:
`fftfreq(n, d = dx / 2π)`) -/
noncomputable def waveNumber (n j : ℕ) (dx : ℝ) : ℝ := (fftRep n j : ℝ) / (n * (dx / (2 * Real.pi)))

/-- **Wave numbers scale inversely with the grid's physical size** -/
theorem k_scales_inverse (n j : ℕ) (dx lam : ℝ) (hl : lam ≠ 0) :
    waveNumber n j (lam * dx) = waveNumber n j dx / lam := by
  -- also true for `lam = 0`, where both sides are `x / 0 = 0`
  rw [waveNumber, waveNumber, mul_div_assoc, mul_left_comm, div_mul_eq_div_div_swap]

/-- the wave numbers are the discrete Fourier wave numbers `2π m / L` of a box of length `L = n dx` -/
theorem k_is_dft_wavenumber (n j : ℕ) (dx : ℝ) (hn : n ≠ 0) (hd : dx ≠ 0) :
    waveNumber n j dx = 2 * Real.pi * (fftRep n j : ℝ) / (n * dx) := by
  rw [waveNumber, ← mul_div_assoc, div_div_eq_mul_div, mul_comm]

/-- the wave numbers of `ψ` and `ψ⁻¹` have opposite representatives (hence equal modulus), except at the Nyquist index of an even axis -/
theorem fftRep_neg (n j : ℕ) (_hj : 0 < j) (hjn : j < n) (hny : 2 * j ≠ n) : fftRep n (n - j) = - fftRep n j := by
  -- `n - j` lies in the lower half exactly when `j` lies in the upper half
  have hc : 2 * (n - j) < n + n % 2 ↔ ¬ 2 * j < n + n % 2 := by omega
  rw [fftRep, fftRep, if_congr hc rfl rfl, ite_not, Nat.cast_sub hjn.le]
  split_ifs
  · ring
  · ring

/-! ### option logic of `get_structure_factor` (for every smoother) -/

inductive Smoothing where
  | none | auto | width (σ : ℝ)

/-- is smoothing switched on?  (`None`, `"none"` and `0` switch it off) -/
noncomputable def smoothingActive : Smoothing → Bool
  | .none => false
  | .auto => true
  | .width σ => decide (σ ≠ 0)

/-- the (k, sf) arrays returned, given the raw spectrum, an arbitrary smoother evaluated at
requested wave numbers, the automatic wave-number grid, and the options -/
noncomputable def sfOutput (kRaw sfRaw : List ℝ) (smooth : ℝ → List ℝ → List ℝ) (autoSigma : ℝ) (autoK : List ℝ)
    (s : Smoothing) (waveNumbers : Option (List ℝ)) (addZero : Bool) : List ℝ × List ℝ :=
  let core : List ℝ × List ℝ :=
    if smoothingActive s then
      let σ := match s with | .width σ => σ | _ => autoSigma
      let ks := match waveNumbers with | some ks => ks | none => autoK
      (ks, smooth σ ks)
    else (kRaw, sfRaw)
  if addZero then (0 :: core.1, 1 :: core.2) else core

/-- **The smoothed variant evaluated at requested wave numbers returns exactly those wave numbers** -/
theorem smoothed_returns_requested (kRaw sfRaw : List ℝ) (smooth : ℝ → List ℝ → List ℝ) (aσ : ℝ) (aK ks : List ℝ)
    (s : Smoothing) (hs : smoothingActive s = true) :
    (sfOutput kRaw sfRaw smooth aσ aK s (some ks) false).1 = ks := by
  simp [sfOutput, hs]

/-- **Adding the zero mode prepends the pair (0, 1)** whatever the other options are -/
theorem add_zero_prepends (kRaw sfRaw : List ℝ) (smooth : ℝ → List ℝ → List ℝ) (aσ : ℝ) (aK : List ℝ)
    (s : Smoothing) (w : Option (List ℝ)) :
    sfOutput kRaw sfRaw smooth aσ aK s w true =
      (0 :: (sfOutput kRaw sfRaw smooth aσ aK s w false).1, 1 :: (sfOutput kRaw sfRaw smooth aσ aK s w false).2) := by
  simp [sfOutput]

/-- without smoothing the raw spectrum is returned and requested wave numbers are ignored -/
theorem unsmoothed_is_raw (kRaw sfRaw : List ℝ) (smooth : ℝ → List ℝ → List ℝ) (aσ : ℝ) (aK : List ℝ)
    (s : Smoothing) (hs : smoothingActive s = false) (w : Option (List ℝ)) :
    sfOutput kRaw sfRaw smooth aσ aK s w false = (kRaw, sfRaw) := by
  simp [sfOutput, hs]

end DV.C16
