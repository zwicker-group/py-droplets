/-
  The cylindrical routine of Model/Cyl.lean (`_locate_droplets_in_mask_cylindrical`), for any image: what its pieces compute, the
  candidates as the on-axis components of the labelled image, and the known finding D21 of its periodic branch.
-/
import DropletsVerif.Props.C02.Merge
import DropletsVerif.Model.Cyl

namespace DV.C02
open DV.Merge DV.MergeInv Relation DV.Label DV.LabelInv DV.GridGeom DV.Cyl

theorem zpos_eq (nzp : ℕ) (cl : Cluster) :
    cl.zpos nzp = (cl.cells.map fun c => ((c % nzp : ℕ) : ℚ)).sum / cl.cells.length + 1 / 2 := by
  unfold Cluster.zpos zIdx
  rw [← List.sum_eq_foldl]

theorem weight_eq (nzp : ℕ) (cl : Cluster) : cl.weight nzp = (cl.cells.map fun c => 2 * (c / nzp) + 1).sum := by
  unfold Cluster.weight rIdx
  rw [← List.sum_eq_foldl]

theorem onAxis_iff (nzp : ℕ) (cl : Cluster) : cl.onAxis nzp = true ↔ ∃ c ∈ cl.cells, c / nzp = 0 := by
  simp [Cluster.onAxis, rIdx]

theorem spans_iff (nzp nz : ℕ) (cl : Cluster) :
    cl.spans nzp nz = true ↔ (∃ c ∈ cl.cells, c % nzp = 0) ∧ ∃ c ∈ cl.cells, nz ≤ c % nzp := by
  unfold Cluster.spans zIdx
  simp only [Bool.and_eq_true, List.any_eq_true, beq_iff_eq, decide_eq_true_eq]

/-- in an image that is not padded no cluster can reach beyond the box -/
theorem not_spans_self {n : ℕ} (hn : 0 < n) (cl : Cluster) : cl.spans n n = false := by
  rw [← Bool.not_eq_true, spans_iff]
  exact fun ⟨_, c, _, hc⟩ => absurd (Nat.mod_lt c hn) (not_lt.mpr hc)

theorem zpos_between (nzp : ℕ) (cl : Cluster) (hne : cl.cells ≠ []) :
    ∃ c ∈ cl.cells, ∃ c' ∈ cl.cells,
      (zIdx nzp c : ℚ) + 1 / 2 ≤ cl.zpos nzp ∧ cl.zpos nzp ≤ (zIdx nzp c' : ℚ) + 1 / 2 := by
  have hlen : (cl.cells.length : ℚ) ≠ 0 := Nat.cast_ne_zero.mpr (mt List.eq_nil_of_length_eq_zero hne)
  have hsum : (cl.cells.map fun _ => cl.zpos nzp - 1 / 2).sum = (cl.cells.map fun c => (zIdx nzp c : ℚ)).sum := by
    rw [List.map_const', List.sum_replicate, nsmul_eq_mul, zpos_eq, add_sub_cancel_right, mul_div_cancel₀ _ hlen]
    rfl
  obtain ⟨c, hc, h1⟩ := List.exists_le_of_sum_le hne _ _ hsum.ge
  obtain ⟨c', hc', h2⟩ := List.exists_le_of_sum_le hne _ _ hsum.le
  exact ⟨c, hc, c', hc', le_sub_iff_add_le.mp h1, sub_le_iff_le_add.mp h2⟩

theorem zpos_bounds (nzp : ℕ) (hn : 0 < nzp) (cl : Cluster) : 0 < cl.zpos nzp ∧ cl.zpos nzp < nzp := by
  have half : (1 / 2 : ℚ) < 1 := by norm_num
  by_cases hne : cl.cells = []
  · -- `find_objects` returns no empty cluster; the model's mean over no cell is `0 / 0 + 1 / 2`
    have h : cl.zpos nzp = 1 / 2 := by
      rw [Cluster.zpos, hne, List.length_nil, Nat.cast_zero, div_zero, zero_add]
    rw [h]
    exact ⟨by norm_num, half.trans_le (Nat.one_le_cast.mpr hn)⟩
  · obtain ⟨c, _, c', _, hc, hc'⟩ := zpos_between nzp cl hne
    have hz : (zIdx nzp c' : ℚ) + 1 ≤ nzp := by exact_mod_cast Nat.mod_lt c' hn
    exact ⟨lt_of_lt_of_le (by positivity) hc, (hc'.trans_lt (add_lt_add_right half _)).trans_le hz⟩

/-- the single-image routine hands on the clusters that touch the axis, unless one of them spans the box -/
theorem single_eq_some_iff (nr n nz : ℕ) (mask : ℕ → Bool) (cs : List (ℚ × ℕ)) :
    single nr n nz mask = some cs ↔
      (∀ cl ∈ (clustersOf (labelExec [nr, n] mask)).filter (Cluster.onAxis n), cl.spans n nz = false) ∧
        cs = ((clustersOf (labelExec [nr, n] mask)).filter (Cluster.onAxis n)).map fun cl => (cl.zpos n, cl.weight n) := by
  unfold single
  simp only
  split_ifs with h
  · obtain ⟨cl, hcl, hs⟩ := List.any_eq_true.mp h
    exact iff_of_false nofun fun h' => Bool.false_ne_true ((h'.1 cl hcl).symm.trans hs)
  · rw [Option.some.injEq, eq_comm, iff_and_self]
    exact fun _ cl hcl => (Bool.not_eq_true _).mp fun hs => h (List.any_eq_true.mpr ⟨cl, hcl, hs⟩)

theorem single_eq_map (nr n nz : ℕ) (mask : ℕ → Bool)
    (hon : ∀ cl ∈ clustersOf (labelExec [nr, n] mask), cl.onAxis n = true)
    (hsp : ∀ cl ∈ clustersOf (labelExec [nr, n] mask), cl.spans n nz = false) :
    single nr n nz mask = some ((clustersOf (labelExec [nr, n] mask)).map fun cl => (cl.zpos n, cl.weight n)) :=
  (single_eq_some_iff nr n nz mask _).mpr
    ⟨fun cl hcl => hsp cl (List.mem_of_mem_filter hcl), by rw [List.filter_eq_self.mpr hon]⟩

theorem candidates_nonperiodic (nr nz : ℕ) (mask : ℕ → Bool) : candidates nr nz false mask = single nr nz nz mask := by
  simp only [candidates, Bool.false_eq_true, if_false]

/-- when the padded analysis is abandoned (a spanning on-axis cluster) the periodic routine falls back to the image itself -/
theorem candidates_of_abandoned {nr nz : ℕ} {mask : ℕ → Bool} (h : single nr (3 * nz) nz (padded nz mask) = none) :
    candidates nr nz true mask = single nr nz nz mask := by
  simp only [candidates, if_true, h]

/-- the candidates of the periodic routine when the padded analysis is not abandoned: the results on the padded image
moved down by one period, those in `[0, nz]` kept, and `nz` wrapped to 0 -/
theorem mem_candidates_periodic {nr nz : ℕ} {mask : ℕ → Bool} {cs : List (ℚ × ℕ)}
    (h : single nr (3 * nz) nz (padded nz mask) = some cs) :
    ∃ out, candidates nr nz true mask = some out ∧ ∀ p, p ∈ out ↔
      ∃ q ∈ cs, (0 ≤ q.1 - nz ∧ q.1 - nz ≤ nz) ∧ p = (if q.1 - nz = nz then 0 else q.1 - nz, q.2) := by
  unfold candidates
  simp only [if_true, h]
  refine ⟨_, rfl, fun p => ?_⟩
  simp only [List.mem_map, List.mem_filter, Bool.and_eq_true, decide_eq_true_eq, beq_iff_eq]
  constructor
  · rintro ⟨_, ⟨⟨q, hq, rfl⟩, hk⟩, rfl⟩
    exact ⟨q, hq, hk, rfl⟩
  · rintro ⟨q, hq, hk, rfl⟩
    exact ⟨_, ⟨⟨q, hq, rfl⟩, hk⟩, rfl⟩

/-- the names in use are exactly `1, …, K`, where `K` is the largest entry of the label image -/
theorem label_range (shape : List ℕ) (mask : ℕ → Bool) (hmask : ∀ c, mask c = true → c < numCells shape) (j : ℕ) :
    j < (labelExec shape mask).foldl max 0 ↔ ∃ c0, mask c0 = true ∧ labelFn shape mask c0 = j + 1 := by
  obtain ⟨hpos, _, _, hgap⟩ := labelExec_isLabelling shape mask hmask
  constructor
  · intro hj
    rcases List.mem_cons.mp (foldl_max_spec (labelExec shape mask) 0).1 with h | h
    · omega
    · -- the maximum is the name of an image cell, and the names below it are in use
      obtain ⟨i, hi, hie⟩ := List.getElem_of_mem h
      have hLi : labelFn shape mask i = (labelExec shape mask).foldl max 0 := (getD_eq_getElem _ hi 0).trans hie
      obtain ⟨c', hc'⟩ := hgap i ((hpos i).mp (by omega)) (j + 1) (by omega) (by omega)
      exact ⟨c', (hpos c').mp (by omega), hc'⟩
  · rintro ⟨c0, _, h0⟩
    have : labelFn shape mask c0 ≤ _ := getD_le_foldl_max (labelExec shape mask) c0
    omega

/-- the clusters of a labelled image, with their labels: cluster number `j+1` is the label class of an image cell that
carries the label `j+1` -/
theorem clustersOf_reps (shape : List ℕ) (mask : ℕ → Bool) (hmask : ∀ c, mask c = true → c < numCells shape) :
    let L := labelFn shape mask
    (clustersOf (labelExec shape mask)).Pairwise (fun a b => a.label ≠ b.label) ∧
    (∀ cl ∈ clustersOf (labelExec shape mask), ∃ c0, mask c0 = true ∧ L c0 = cl.label ∧
      cl.cells = (List.range (numCells shape)).filter fun c => L c == L c0) ∧
    (∀ c0, mask c0 = true → ∃ cl ∈ clustersOf (labelExec shape mask), cl.label = L c0) := by
  intro L
  have hrange := label_range shape mask hmask
  refine ⟨?_, ?_, ?_⟩
  · exact List.pairwise_map.mpr (List.pairwise_lt_range.imp fun h => by simp only; omega)
  · intro cl hcl
    obtain ⟨j, hj, rfl⟩ := List.mem_map.mp hcl
    obtain ⟨c0, m0, (h0 : L c0 = j + 1)⟩ := (hrange j).mp (List.mem_range.mp hj)
    refine ⟨c0, m0, h0, ?_⟩
    simp only [labelExec_length, h0]
    rfl
  · intro c0 m0
    have hp : 0 < L c0 := (labelExec_isLabelling shape mask hmask).1 c0 |>.mpr m0
    exact ⟨_, List.mem_map.mpr ⟨L c0 - 1, List.mem_range.mpr ((hrange _).mpr ⟨c0, m0, (by omega : L c0 = _)⟩), rfl⟩,
      by simp only; omega⟩

theorem clustersOf_connected (shape : List ℕ) (mask : ℕ → Bool) (hmask : ∀ c, mask c = true → c < numCells shape)
    (hconn : ∀ c1 c2, mask c1 = true → mask c2 = true → MaskConn mask (inboxEdges shape) c1 c2)
    (hne : ∃ c, mask c = true) :
    ∃ lbl, clustersOf (labelExec shape mask) = [⟨lbl, (List.range (numCells shape)).filter mask⟩] := by
  obtain ⟨hpos, heq, _, _⟩ := labelExec_isLabelling shape mask hmask
  obtain ⟨hpw, hcls, hall⟩ := clustersOf_reps shape mask hmask
  obtain ⟨c0, m0⟩ := hne
  -- every cluster is the whole image, under the label of `c0`
  have hcl : ∀ cl ∈ clustersOf (labelExec shape mask),
      cl = ⟨labelFn shape mask c0, (List.range (numCells shape)).filter mask⟩ := by
    rintro ⟨lbl, cells⟩ hcl
    obtain ⟨c1, m1, rfl, rfl⟩ := hcls _ hcl
    rw [Cluster.mk.injEq]
    refine ⟨(heq c1 c0 m1 m0).mpr (hconn c1 c0 m1 m0), List.filter_congr fun c _ => ?_⟩
    rw [Bool.eq_iff_iff, beq_iff_eq]
    exact ⟨fun h => (hpos c).mp (h ▸ (hpos c1).mpr m1), fun mc => (heq c c1 mc m1).mpr (hconn c c1 mc m1)⟩
  obtain ⟨cl0, hcl0, _⟩ := hall c0 m0
  -- and the labels of the clusters differ: there is one
  refine ⟨labelFn shape mask c0, ?_⟩
  rcases hcs : clustersOf (labelExec shape mask) with _ | ⟨a, _ | ⟨b, l⟩⟩
  · rw [hcs] at hcl0
    cases hcl0
  · rw [hcl a (hcs ▸ List.mem_cons_self)]
  · rw [hcs] at hpw hcl
    exact absurd (by rw [hcl a List.mem_cons_self, hcl b (List.mem_cons_of_mem _ List.mem_cons_self)])
      ((List.pairwise_cons.mp hpw).1 b List.mem_cons_self)

/-! ### cylindrical grids -/

/-- **Cylindrical grids: every candidate lies on the axis inside the box `[z_min, z_max)`** (cell units
`0 ≤ z < nz`), periodic or not, also after the fall-back for a spanning on-axis cluster. -/
theorem cyl_candidates_in_box (nr nz : ℕ) (hn : 0 < nz) (periodic : Bool) (mask : ℕ → Bool) (cs : List (ℚ × ℕ))
    (h : candidates nr nz periodic mask = some cs) : ∀ p ∈ cs, 0 ≤ p.1 ∧ p.1 < nz := by
  have hplain : ∀ cs', single nr nz nz mask = some cs' → ∀ p ∈ cs', 0 ≤ p.1 ∧ p.1 < nz := by
    intro cs' hs p hp
    obtain ⟨_, rfl⟩ := (single_eq_some_iff nr nz nz mask cs').mp hs
    obtain ⟨cl, _, rfl⟩ := List.mem_map.mp hp
    exact ⟨(zpos_bounds nz hn cl).1.le, (zpos_bounds nz hn cl).2⟩
  cases periodic with
  | false => exact hplain cs (candidates_nonperiodic nr nz mask ▸ h)
  | true =>
    cases hs : single nr (3 * nz) nz (padded nz mask) with
    | none => exact hplain cs (candidates_of_abandoned hs ▸ h)
    | some cs' =>
      -- kept: `0 ≤ z − nz ≤ nz`, and `nz` itself is wrapped to 0
      obtain ⟨out, hout, hmem⟩ := mem_candidates_periodic hs
      obtain rfl : out = cs := Option.some.inj (hout.symm.trans h)
      intro p hp
      obtain ⟨q, _, hk, rfl⟩ := (hmem p).mp hp
      split_ifs with he
      · exact ⟨le_rfl, Nat.cast_pos.mpr hn⟩
      · exact ⟨hk.1, lt_of_le_of_ne hk.2 he⟩

/-- **C02 on a cylindrical grid without periodic z, for ANY binary image**: the candidates of the model of
`_locate_droplets_in_mask_cylindrical` correspond one-to-one to the connected components (cells connect through faces)
that touch the symmetry axis: there is a list of representatives — image cells of pairwise different components, each
component containing a cell on the axis, every on-axis image cell's component represented — such that the candidates are,
in this order, (mean height + 1/2, total weight) of the representatives' components.  In particular an image with no
component on the axis yields no candidate (`cyl_no_axis_no_candidate`). -/
theorem cyl_candidates_are_components (nr nz : ℕ) (hnz : 0 < nz) (mask : ℕ → Bool)
    (hmask : ∀ c, mask c = true → c < numCells [nr, nz]) :
    let L := labelFn [nr, nz] mask
    ∃ reps : List ℕ,
      (∀ c0 ∈ reps, mask c0 = true ∧ ∃ c, L c = L c0 ∧ c / nz = 0) ∧
      reps.Pairwise (fun a b => L a ≠ L b) ∧
      (∀ c, mask c = true → c / nz = 0 → ∃ c0 ∈ reps, L c0 = L c) ∧
      candidates nr nz false mask = some (reps.map fun c0 =>
        (Cluster.zpos nz ⟨0, (List.range (numCells [nr, nz])).filter fun c => L c == L c0⟩,
         Cluster.weight nz ⟨0, (List.range (numCells [nr, nz])).filter fun c => L c == L c0⟩)) := by
  intro L
  obtain ⟨hpw, hcls, hall⟩ := clustersOf_reps [nr, nz] mask hmask
  choose! rep hrep using hcls
  set on := (clustersOf (labelExec [nr, nz] mask)).filter (Cluster.onAxis nz) with hon
  refine ⟨on.map rep, ?_, ?_, ?_, ?_⟩
  · intro c0 hc0
    obtain ⟨cl, hcl, rfl⟩ := List.mem_map.mp hc0
    obtain ⟨hcl, hax⟩ := List.mem_filter.mp hcl
    obtain ⟨hm, _, hcells⟩ := hrep cl hcl
    obtain ⟨c, hc, hc0'⟩ := (onAxis_iff nz cl).mp hax
    rw [hcells] at hc
    exact ⟨hm, c, by simpa using (List.mem_filter.mp hc).2, hc0'⟩
  · refine List.pairwise_map.mpr ((hpw.sublist List.filter_sublist).imp_of_mem fun ha hb hab h => hab ?_)
    exact ((hrep _ (List.mem_of_mem_filter ha)).2.1.symm.trans h).trans (hrep _ (List.mem_of_mem_filter hb)).2.1
  · intro c mc hc0
    obtain ⟨cl, hcl, hlab⟩ := hall c mc
    obtain ⟨_, hl0, hcells⟩ := hrep cl hcl
    have hcmem : c ∈ cl.cells := by
      rw [hcells]
      exact List.mem_filter.mpr ⟨List.mem_range.mpr (hmask c mc), by simp only [beq_iff_eq]; rw [hl0, hlab]⟩
    exact ⟨rep cl, List.mem_map_of_mem (List.mem_filter.mpr ⟨hcl, (onAxis_iff nz cl).mpr ⟨c, hcmem, hc0⟩⟩), hl0.trans hlab⟩
  · rw [candidates_nonperiodic, (single_eq_some_iff nr nz nz mask _).mpr ⟨fun cl _ => not_spans_self hnz cl, rfl⟩,
      List.map_map]
    refine congrArg some (List.map_congr_left fun cl hcl => ?_)
    rw [Function.comp_apply, ← (hrep cl (List.mem_of_mem_filter hcl)).2.2]
    rfl

/-- an image with no cell on the symmetry axis yields no candidate -/
theorem cyl_no_axis_no_candidate (nr nz : ℕ) (hnz : 0 < nz) (mask : ℕ → Bool)
    (hmask : ∀ c, mask c = true → c < numCells [nr, nz]) (hno : ∀ c, mask c = true → c / nz ≠ 0) :
    candidates nr nz false mask = some [] := by
  obtain ⟨reps, h1, _, _, h4⟩ := cyl_candidates_are_components nr nz hnz mask hmask
  have hpos := (labelExec_isLabelling [nr, nz] mask hmask).1
  have : reps = [] := List.eq_nil_iff_forall_not_mem.mpr fun c0 h0 => by
    obtain ⟨m0, c, hl, hc⟩ := h1 c0 h0
    exact hno c ((hpos c).mp (hl ▸ (hpos c0).mpr m0)) hc
  rw [h4, this]; rfl

/-! ### known finding D21: the 'spanning' test of the periodic cylindrical branch

`slices[1].start == 0 and slices[1].stop > nz` (on the 3× padded image) is meant to detect an on-axis component that
winds round the z axis.  It also fires for a component that does NOT wind but is longer than one period when
unwrapped; the code then analyses the image without periodic boundary conditions.  Witness (found by the
implementation-side predicate with `VERIF_SEED=7`, reproduced by the model): -/

def maskD21 : List Bool :=
  [0,0,0,0,0,1,1, 1,0,1,1,1,1,1, 0,0,1,0,0,0,0, 1,1,1,0,0,0,1, 0,0,1,0,0,0,1].map (· == 1)

/-- On the 5 × 7 image `maskD21` with periodic z: all 15 image cells form ONE component of the grid's topology (the
Cartesian pipeline, proved correct above, finds one cluster of 15 cells), of weight 71 (volume / π dr² dz); the padded
analysis is abandoned (`single … = none`) and the candidate handed on is an in-box piece of weight 52. -/
theorem cyl_long_component_witness :
    (locateMask [5, 7] [false, true] maskD21).map (fun p => p.2.1) = [15] ∧
    (((List.range 35).filter fun c => maskD21.getD c false).map fun c => 2 * rIdx 7 c + 1).sum = 71 ∧
    single 5 21 7 (padded 7 fun c => maskD21.getD c false) = none ∧
    candidates 5 7 true (fun c => maskD21.getD c false) = some [(11/3, 52)] := by
  -- the padded image (105 cells, the dear part) is labelled once; with it abandoned the candidates are those of the image itself
  have hpad : single 5 21 7 (padded 7 fun c => maskD21.getD c false) = none := by decide +kernel
  have hbox : single 5 7 7 (fun c => maskD21.getD c false) = some [(11/3, 52)] := by decide +kernel
  exact ⟨by decide +kernel, by decide +kernel, hpad,
    (candidates_of_abandoned (nr := 5) (nz := 7) (mask := fun c => maskD21.getD c false) hpad).trans hbox⟩

end DV.C02
