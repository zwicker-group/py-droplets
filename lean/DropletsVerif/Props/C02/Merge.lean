/-
  The periodic merging loop `DV.Merge.mergeLoop` (Model/Merge.lean: `_locate_droplets_in_mask_cartesian` as repaired in /repo commit
  a636831), for EVERY initial labelling `lab0`, every list of boundary pairs (any shape, any periodicity mask, any dimension), every
  cell list: final clusters = closure of the initial clusters under the periodic boundary pairs.  There `lab0` stands for scipy's
  labelling of the image (contract: in-box face-connected components; monitored against an independent BFS on every run).  Then from
  the image alone, with the executable labeller `DV.Label.labelExec` in its place: the labeller meets the contract, the clusters are
  the components of the grid's topology, and what `locateCells` returns for a single cluster.
-/
import DropletsVerif.Lemmas.LabelInv

namespace DV.C02
open DV.Merge DV.MergeInv Relation

section
variable (shape : Nat → Nat) (lab0 : Nat → Nat) (coord : Nat → Nat → Nat) (cells : List Nat)

/-- **Partition.**  After the loop two mask cells carry the same label exactly when they are
connected through initial clusters and periodic boundary pairs; background stays background. -/
theorem mergeLoop_partition (edges : List Edge) (hcells : ∀ e ∈ edges, e.l ∈ cells ∧ e.h ∈ cells) :
    let st := mergeLoop shape lab0 (initSt coord lab0 cells) edges
    (∀ c, 0 < st.lab c ↔ 0 < lab0 c) ∧
    ∀ c1 c2, 0 < lab0 c1 → 0 < lab0 c2 → (st.lab c1 = st.lab c2 ↔ Conn lab0 edges c1 c2) := by
  intro st
  have inv := labInv_final shape lab0 coord cells edges
  exact ⟨inv.pos_iff, fun c1 c2 h1 h2 => inv.eq_iff_conn h1 h2⟩

/-- **Volume.**  The volume stored for a surviving label is the number of cells of its cluster
(times the cell volume, applied by the caller). -/
theorem mergeLoop_volume (edges : List Edge) (hcells : ∀ e ∈ edges, e.l ∈ cells ∧ e.h ∈ cells) (r : Nat) :
    let st := mergeLoop shape lab0 (initSt coord lab0 cells) edges
    Present st cells r → st.vol r = count st.lab r cells :=
  (sumInv_final shape lab0 coord cells edges hcells).vol_eq r

/-- `C02_position_nonwinding` with the whole periods named: the shift recorded for the initial cluster of `c0`, less
`κ c0`.  `off − κ` is constant on the merged cluster (`LiftInv`), and the stored first moment is that of the cells moved
by `off` (`SumInv`). -/
theorem C02_position_explicit (edges : List Edge) (hcells : ∀ e ∈ edges, e.l ∈ cells ∧ e.h ∈ cells)
    (c0 : Nat) (hc0 : c0 ∈ cells) (hm0 : 0 < lab0 c0) (κ : Nat → Nat → Int)
    (hκ : ConsistentLift lab0 edges (Conn lab0 edges c0) κ) :
    let st := mergeLoop shape lab0 (initSt coord lab0 cells) edges
    ∀ a,
      st.pos (st.lab c0) a =
        wsum st.lab (st.lab c0) (fun c => (coord c a : Rat) + 1 / 2 + (κ c a : Rat) * (shape a : Rat)) cells
          / count st.lab (st.lab c0) cells + ((st.off (lab0 c0) a - κ c0 a : Int) : Rat) * (shape a : Rat) := by
  intro st a
  have linv : LabInv lab0 st edges := labInv_final shape lab0 coord cells edges
  have sinv : SumInv shape lab0 coord cells st := sumInv_final shape lab0 coord cells edges hcells
  have hlift : LiftInv lab0 (Conn lab0 edges c0) κ st := liftInv_final shape lab0 coord cells edges c0 κ hκ
  have hpres : Present st cells (st.lab c0) := ⟨(linv.pos_iff c0).mpr hm0, c0, hc0, rfl⟩
  have hne := (count_pos hpres.2).ne'
  have hshift : ∀ c ∈ cells, st.lab c = st.lab c0 →
      (coord c a : Rat) + 1 / 2 + (st.off (lab0 c) a : Rat) * (shape a : Rat) =
        (coord c a : Rat) + 1 / 2 + (κ c a : Rat) * (shape a : Rat) +
          ((st.off (lab0 c0) a - κ c0 a : Int) : Rat) * (shape a : Rat) := by
    intro c _ hc
    have hcm : 0 < lab0 c := (linv.pos_iff c).mp (hc ▸ hpres.1)
    have := hlift c c0 (linv.conn_of_eq c0 c hm0 hcm hc.symm) (EqvGen.refl _) hcm hm0 hc a
    rw [show st.off (lab0 c) a = κ c a + (st.off (lab0 c0) a - κ c0 a) by omega]
    push_cast; ring
  rw [eq_comm, ← eq_sub_iff_add_eq, div_eq_iff hne, sub_mul, ← sinv.vol_eq _ hpres, sinv.pos_eq _ hpres a,
    wsum_shift hshift, sinv.vol_eq _ hpres]
  ring

/-- **Position of a non-winding component.**  If the periodic component of `c0` admits a
consistent integer lift `κ` (constant on initial clusters, dropping by one period across each of
its periodic boundary pairs — i.e. the component does not wind), then the stored position equals
the centre of mass of the `κ`-unwrapped component up to whole periods along each axis. -/
theorem C02_position_nonwinding (edges : List Edge) (hcells : ∀ e ∈ edges, e.l ∈ cells ∧ e.h ∈ cells)
    (c0 : Nat) (hc0 : c0 ∈ cells) (hm0 : 0 < lab0 c0) (κ : Nat → Nat → Int)
    (hκ : ConsistentLift lab0 edges (Conn lab0 edges c0) κ) :
    let st := mergeLoop shape lab0 (initSt coord lab0 cells) edges
    ∃ m : Nat → Int, ∀ a,
      st.pos (st.lab c0) a =
        wsum st.lab (st.lab c0) (fun c => (coord c a : Rat) + 1 / 2 + (κ c a : Rat) * (shape a : Rat)) cells
          / count st.lab (st.lab c0) cells + (m a : Rat) * (shape a : Rat) := by
  intro st
  exact ⟨fun a => st.off (lab0 c0) a - κ c0 a,
    C02_position_explicit shape lab0 coord cells edges hcells c0 hc0 hm0 κ hκ⟩

/-- **No shift along an axis that has no boundary pairs** (a non-periodic axis): the recorded offsets
stay zero there, so positions along such an axis are never moved by a period. -/
theorem off_zero_along (edges : List Edge) (a : Nat) (ha : ∀ e ∈ edges, e.ax ≠ a) :
    ∀ k, (mergeLoop shape lab0 (initSt coord lab0 cells) edges).off k a = 0 :=
  mergeLoop_rec (P := fun st _ => ∀ k, st.off k a = 0) (fun _ => rfl) fun _ _ e hp h0 =>
    step_inv (Q := fun st => ∀ k, st.off k a = 0) h0 fun hm k => by
      have hd : delta a e.ax = 0 := if_neg (ha e (hp.subset (by simp))).symm
      rw [step_off hm]
      split
      · simp [shiftOf, h0, hd]
      · exact h0 k

end

/-- the input that exposed finding D1 (U-shaped component over the periodic face of axis 1 on a
5×8 grid: cells (1,0),(3,0),(1..3,7), scipy labels 1,2,2,3,2): the repaired loop returns ONE
cluster of 5 cells at (2.5, −0.1) ≡ (2.5, 7.9), the centre of mass of the unwrapped component
(the loop before the repair returned (2.5, 1.5)). -/
example :
    locateCells [5, 8] [false, true]
      [0,0,0,0,0,0,0,0, 1,0,0,0,0,0,0,2, 0,0,0,0,0,0,0,2, 3,0,0,0,0,0,0,2, 0,0,0,0,0,0,0,0]
      = [(3, 5, [5 / 2, -1 / 10])] := by decide +kernel

/-- non-vacuity of `ConsistentLift`: on a 1×4 periodic strip with cells 0 and 3 occupied (initial
clusters 1 and 2, one boundary pair), the lift κ(0)=0, κ(3)=−1 is consistent -/
example : ConsistentLift (fun c => if c = 0 then 1 else if c = 3 then 2 else 0) [⟨0, 0, 3⟩]
    (fun _ => True) (fun c a => if c = 3 ∧ a = 0 then -1 else 0) := by
  constructor
  · intro c1 c2 _ _ h a
    -- the initial cluster tells whether a cell is cell 3
    have h3 : ∀ c : Nat, (if c = 0 then 1 else if c = 3 then 2 else 0) = 2 ↔ c = 3 := fun c => by
      split_ifs <;> simp [*]
    have : c1 = 3 ↔ c2 = 3 := by rw [← h3 c1, ← h3 c2, h]
    simp only [this]
  · intro e he _ _ _ _ a
    rw [List.mem_singleton.mp he]
    by_cases ha : a = 0 <;> simp [delta, ha]

/-! ### from the MASK: the executable labeller and the whole pipeline

`DV.Label.labelExec` (Model/Label.lean) is an executable model of the contract of
`scipy.ndimage.label` that the code relies on.  With it the statement does not depend on a given
labelling: the clusters returned for a binary image are exactly the classes of the grid's adjacency
(in-box face pairs together with the face pairs across the periodic boundaries) restricted to the mask.
The correspondence check compares `labelExec` with scipy's labelling on every small image. -/

open DV.Label DV.LabelInv

/-- **The labeller satisfies the labelling contract**: background ↔ 0; two mask cells get the same
name iff they are connected through in-box face pairs inside the mask; names are ordered like the
first (raster-order) cells of the clusters and are gap-free (1, 2, …, K). -/
theorem labelExec_isLabelling (shape : List Nat) (mask : Nat → Bool)
    (hmask : ∀ c, mask c = true → c < numCells shape) :
    let L := labelFn shape mask
    (∀ c, 0 < L c ↔ mask c = true) ∧
    (∀ c1 c2, mask c1 = true → mask c2 = true →
      (L c1 = L c2 ↔ MaskConn mask (inboxEdges shape) c1 c2)) ∧
    (∀ c1 c2, mask c1 = true → mask c2 = true →
      (L c1 < L c2 ↔ ∃ a, L a = L c1 ∧ ∀ b, L b = L c2 → a < b)) ∧
    (∀ c, mask c = true → ∀ k, 1 ≤ k → k ≤ L c → ∃ c', L c' = k) := by
  intro L
  set n := numCells shape
  set raw := rawLabel shape mask
  have hrawpos : ∀ c, 0 < raw c ↔ mask c = true := rawLabel_pos_iff shape mask
  have hL : ∀ c, mask c = true → L c = rank n raw c := fun c m => labelFn_eq shape mask (hmask c m)
  have hpos : ∀ c, 0 < L c ↔ mask c = true := by
    intro c
    by_cases hc : c < n
    · rw [show L c = _ from labelFn_eq shape mask hc, ← hrawpos c, Nat.pos_iff_ne_zero, Nat.pos_iff_ne_zero, Ne,
        rank_zero_iff raw c hc]
    · rw [show L c = 0 from labelFn_out shape mask (not_lt.mp hc)]
      exact ⟨fun h => absurd h (lt_irrefl 0), fun h => absurd (hmask c h) hc⟩
  have heq : ∀ c1 c2, mask c1 = true → mask c2 = true → (L c1 = L c2 ↔ raw c1 = raw c2) := by
    intro c1 c2 m1 m2
    rw [hL c1 m1, hL c2 m2]
    exact rank_eq_iff raw (hmask c1 m1) (hmask c2 m2) ((hrawpos c1).mpr m1) ((hrawpos c2).mpr m2)
  -- the first cell of the raw cluster of an image cell is the least cell that carries its name
  have hmin : ∀ c, mask c = true → L (firstOf n raw c) = L c ∧ ∀ b, L b = L c → firstOf n raw c ≤ b := by
    intro c m
    have hf := lab_firstOf raw (hmask c m)
    have mf : mask (firstOf n raw c) = true := (hrawpos _).mp (hf ▸ (hrawpos c).mpr m)
    refine ⟨(heq _ _ mf m).mpr hf, fun b hb => firstOf_le_of_eq raw (hmask c m) ?_⟩
    have mb : mask b = true := (hpos b).mp (hb ▸ (hpos c).mpr m)
    exact (heq b c mb m).mp hb
  refine ⟨hpos, ?_, ?_, ?_⟩
  · intro c1 c2 m1 m2
    rw [heq c1 c2 m1 m2]
    exact rawLabel_eq_iff shape mask m1 m2
  · intro c1 c2 m1 m2
    obtain ⟨e1, l1⟩ := hmin c1 m1
    obtain ⟨e2, l2⟩ := hmin c2 m2
    have hlt : L c1 < L c2 ↔ firstOf n raw c1 < firstOf n raw c2 := by
      rw [hL c1 m1, hL c2 m2]
      exact rank_lt_iff raw (hmask c1 m1) (hmask c2 m2) ((hrawpos c1).mpr m1) ((hrawpos c2).mpr m2)
    rw [hlt]
    exact ⟨fun hlt => ⟨_, e1, fun b hb => lt_of_lt_of_le hlt (l2 b hb)⟩,
      fun ⟨a, ha, hall⟩ => lt_of_le_of_lt (l1 a ha) (hall _ e2)⟩
  · intro c m k hk hle
    rw [hL c m] at hle
    obtain ⟨c', h1, _, _, h4⟩ := rank_gapfree raw (hmask c m) ((hrawpos c).mpr m) k hk hle
    exact ⟨c', (labelFn_eq shape mask h1).trans h4⟩

/-- **Partition, from the mask.**  Running the labeller and then the periodic merge loop (this is
`locateMask`), two mask cells end in the same cluster exactly when they are connected inside the mask
through in-box face pairs and periodic face pairs — for every shape, periodicity mask and image. -/
theorem locateMask_partition (shape : List Nat) (periodic : List Bool) (mask : Nat → Bool)
    (hmask : ∀ c, mask c = true → c < numCells shape) (coord : Nat → Nat → Nat) (cells : List Nat)
    (shp : Nat → Nat) :
    let L := labelFn shape mask
    let st := mergeLoop shp L (initSt coord L cells) (edgesOf shape periodic)
    (∀ c, 0 < st.lab c ↔ mask c = true) ∧
    ∀ c1 c2, mask c1 = true → mask c2 = true →
      (st.lab c1 = st.lab c2 ↔ MaskConn mask (inboxEdges shape ++ edgesOf shape periodic) c1 c2) := by
  intro L st
  obtain ⟨hpos, heq, _, _⟩ := labelExec_isLabelling shape mask hmask
  have inv : LabInv L st (edgesOf shape periodic) := labInv_final shp L coord cells _
  refine ⟨fun c => (inv.pos_iff c).trans (hpos c), fun c1 c2 m1 m2 => ?_⟩
  rw [← conn_iff_maskConn hpos heq]
  exact inv.eq_iff_conn ((hpos c1).mpr m1) ((hpos c2).mpr m2)

/-- the labeller on the image of finding D1 reproduces scipy's labelling (1,2,2,3,2) -/
example :
    labelExec [5, 8] (fun c => ([0,0,0,0,0,0,0,0, 1,0,0,0,0,0,0,1, 0,0,0,0,0,0,0,1, 1,0,0,0,0,0,0,1,
      0,0,0,0,0,0,0,0] : List Nat).getD c 0 != 0)
      = [0,0,0,0,0,0,0,0, 1,0,0,0,0,0,0,2, 0,0,0,0,0,0,0,2, 3,0,0,0,0,0,0,2, 0,0,0,0,0,0,0,0] := by
  decide +kernel

/-! ### the same, in terms of the grid's topology (coordinates) -/

open DV.GridGeom

/-- one directed face step of the grid's topology from `c` to `c'`: one step up along an axis inside the
box, or — on a periodic axis — from a cell of the lower face to the opposite cell of the upper face
(`GridConn` takes the symmetric closure) -/
def FaceAdj (shape : List Nat) (periodic : List Bool) (c c' : Nat) : Prop :=
  ∃ ax, StepUp shape ax c c' ∨ Across shape periodic ax c c'

/-- connectivity inside the mask under the grid's topology -/
def GridConn (shape : List Nat) (periodic : List Bool) (mask : Nat → Bool) : Nat → Nat → Prop :=
  EqvGen fun a b => mask a = true ∧ mask b = true ∧ (a = b ∨ FaceAdj shape periodic a b)

theorem gridConn_mono {shape : List ℕ} {per : List Bool} {m1 m2 : ℕ → Bool} (hm : ∀ c, m1 c = true → m2 c = true)
    {a b : ℕ} (h : GridConn shape per m1 a b) : GridConn shape per m2 a b :=
  EqvGen.mono (fun x y hl => ⟨hm x hl.1, hm y hl.2.1, hl.2.2⟩) a b h

theorem faceAdj_iff_edge (shape : List Nat) (periodic : List Bool) (hpos : ∀ n ∈ shape, 0 < n) (a b : Nat) :
    FaceAdj shape periodic a b ↔ ∃ e ∈ inboxEdges shape ++ edgesOf shape periodic, e.l = a ∧ e.h = b := by
  constructor
  · rintro ⟨ax, h | h⟩
    · exact ⟨⟨ax, a, b⟩, List.mem_append_left _ ((inboxEdges_iff shape hpos ax a b).mpr h), rfl, rfl⟩
    · exact ⟨⟨ax, a, b⟩, List.mem_append_right _ ((edgesOf_iff shape periodic hpos ax a b).mpr h), rfl, rfl⟩
  · rintro ⟨⟨ax, l, h⟩, he, rfl, rfl⟩
    rcases List.mem_append.mp he with h1 | h1
    · exact ⟨ax, Or.inl ((inboxEdges_iff shape hpos ax _ _).mp h1)⟩
    · exact ⟨ax, Or.inr ((edgesOf_iff shape periodic hpos ax _ _).mp h1)⟩

theorem gridConn_iff_maskConn (shape : List Nat) (periodic : List Bool) (mask : Nat → Bool) (hpos : ∀ n ∈ shape, 0 < n)
    {a b : Nat} : GridConn shape periodic mask a b ↔ MaskConn mask (inboxEdges shape ++ edgesOf shape periodic) a b := by
  unfold GridConn MaskConn MaskLink
  simp only [faceAdj_iff_edge shape periodic hpos]

theorem gridConn_nonperiodic (shape : List Nat) (periodic : List Bool) (mask : Nat → Bool) (hpos : ∀ n ∈ shape, 0 < n)
    (hper : ∀ ax, periodic.getD ax false = false) {a b : Nat} :
    GridConn shape periodic mask a b ↔ MaskConn mask (inboxEdges shape) a b := by
  rw [gridConn_iff_maskConn shape periodic mask hpos, edgesOf_nonperiodic shape periodic hper, List.append_nil]

/-- **C02, from the image and the grid alone.**  For every shape (any dimension, all extents
positive), every periodicity mask and every binary image: after labelling and periodic merging two
cells of the image belong to the same cluster exactly when they are connected inside the image by
face steps of the grid's topology (in-box steps and steps across periodic boundaries). -/
theorem locateMask_topology (shape : List Nat) (periodic : List Bool) (mask : Nat → Bool)
    (hpos : ∀ n ∈ shape, 0 < n) (hmask : ∀ c, mask c = true → c < numCells shape)
    (coord : Nat → Nat → Nat) (cells : List Nat) (shp : Nat → Nat) :
    let L := labelFn shape mask
    let st := mergeLoop shp L (initSt coord L cells) (edgesOf shape periodic)
    ∀ c1 c2, mask c1 = true → mask c2 = true →
      (st.lab c1 = st.lab c2 ↔ GridConn shape periodic mask c1 c2) := by
  intro L st c1 c2 m1 m2
  rw [gridConn_iff_maskConn shape periodic mask hpos]
  exact (locateMask_partition shape periodic mask hmask coord cells shp).2 c1 c2 m1 m2

/-- non-vacuity: on the 5×8 grid of finding D1 (periodic along axis 1) the cell (1,0) [flat 8] and the
cell (1,7) [flat 15] are face neighbours across the periodic boundary, (1,7) and (2,7) [flat 23] in the box -/
example : Across [5, 8] [false, true] 1 8 15 ∧ StepUp [5, 8] 0 15 23 := by
  refine ⟨⟨by decide, by decide, by decide, by decide, by decide, by decide⟩,
    ⟨by decide, by decide, by decide, by decide, by decide⟩⟩

/-! ### what `locateCells` returns when every cell ends in one cluster -/

theorem foldl_max_spec (l : List ℕ) (a : ℕ) : l.foldl max a ∈ a :: l ∧ ∀ x ∈ a :: l, x ≤ l.foldl max a :=
  List.max?_eq_some_iff.mp List.max?_cons'

theorem getD_le_foldl_max (l : List ℕ) (c : ℕ) : l.getD c 0 ≤ l.foldl max 0 := by
  rw [List.getD_eq_getElem?_getD]
  cases h : l[c]? with
  | none => exact Nat.zero_le _
  | some x => exact (foldl_max_spec l 0).2 x (List.mem_cons_of_mem _ (List.mem_of_getElem? h))

theorem edgesOf_cells (shape : List ℕ) (periodic : List Bool) (hpos : ∀ n ∈ shape, 0 < n) :
    ∀ e ∈ edgesOf shape periodic, e.l ∈ List.range (numCells shape) ∧ e.h ∈ List.range (numCells shape) := by
  intro e he
  obtain ⟨h1, _, h3, _, h5⟩ := (mem_edgesOf shape periodic e).mp he
  have := (setCoord_spec shape hpos e.l e.ax _ (Nat.sub_lt (getD_pos hpos h1) one_pos)).1
  exact ⟨List.mem_range.mpr h3, List.mem_range.mpr (h5 ▸ this)⟩

theorem lab_mem_init (shape : ℕ → ℕ) (lab0 : ℕ → ℕ) (coord : ℕ → ℕ → ℕ) (cells : List ℕ) (edges : List Edge) :
    ∀ c, ∃ c', (mergeLoop shape lab0 (initSt coord lab0 cells) edges).lab c = lab0 c' :=
  mergeLoop_rec (P := fun st _ => ∀ c, ∃ c', st.lab c = lab0 c') (fun c => ⟨c, rfl⟩)
    fun _ _ e _ hinv => step_inv (Q := fun st => ∀ c, ∃ c', st.lab c = lab0 c') hinv fun hm c => by
      rw [step_lab hm c]
      split
      · exact hinv e.l
      · exact hinv c

theorem filter_eq_singleton {p : ℕ → Bool} {a : ℕ} (l : List ℕ) (hnd : l.Nodup) (hmem : a ∈ l)
    (hp : ∀ x ∈ l, p x = true ↔ x = a) : l.filter p = [a] := by
  rw [List.filter_congr fun x hx => show p x = (x == a) by rw [Bool.eq_iff_iff, beq_iff_eq]; exact hp x hx,
    List.filter_beq, List.count_eq_one_of_mem hnd hmem]
  rfl

theorem locateCells_single (shape : List ℕ) (periodic : List Bool) (labels : List ℕ) (r : ℕ) :
    let lab0 : ℕ → ℕ := fun c => labels.getD c 0
    let cells := List.range (numCells shape)
    let st := mergeLoop (fun a => shape.getD a 1) lab0 (initSt (coordOf shape) lab0 cells) (edgesOf shape periodic)
    Present st cells r → (∀ c ∈ cells, 0 < st.lab c → st.lab c = r) →
      locateCells shape periodic labels = [(r, st.vol r, (List.range shape.length).map fun a => st.pos r a)] := by
  intro lab0 cells st hpres hall
  obtain ⟨hr, c0, hc0, rfl⟩ := hpres
  -- a final label is one of the initial labels, which the scan `1 … max` covers
  obtain ⟨c', hc'⟩ := lab_mem_init (fun a => shape.getD a 1) lab0 (coordOf shape) cells (edgesOf shape periodic) c0
  have hle : st.lab c0 ≤ labels.foldl max 0 := hc' ▸ getD_le_foldl_max labels c'
  have hfilter : ((List.range (labels.foldl max 0 + 1)).filter fun r => decide (r > 0) && cells.any fun c => st.lab c == r)
      = [st.lab c0] := by
    refine filter_eq_singleton _ List.nodup_range (List.mem_range.mpr (Nat.lt_succ_of_le hle)) fun r _ => ?_
    simp only [Bool.and_eq_true, decide_eq_true_eq, List.any_eq_true, beq_iff_eq]
    exact ⟨fun ⟨hr, c, hc, e⟩ => e ▸ hall c hc (e ▸ hr), fun e => e ▸ ⟨hr, c0, hc0, rfl⟩⟩
  exact congrArg (List.map _) hfilter

end DV.C02
