/-
  C13 — A perturbed droplet's volume, surface, curvature and outline match its shape.
  Theorems over `ℝ` about `Generated/Perturbed.lean` (regenerated on every run from the loops of
  PerturbedDroplet2D / 3D / 3DAxisSym: `=` vs `+=`, the `if a != 0` guards, the powers of the
  radius are the source's).  Spherical harmonics enter as an arbitrary table
  `Y : ℕ → ℝ` (value of mode k in the direction considered), so every statement holds for any
  direction and any harmonics.

  The specification side:
    distance   R · (1 + Σ_k a_k B_k)
    curvature  2-D: 1 / (R · (1 − Σ_n (n²−1)(a_n sin nφ + b_n cos nφ)))
               3-D: 1/R + (1/R) Σ_k a_k (l_k² + l_k − 2)/2 · Y_k       (l_k = degree of mode k)
    volume     2-D: π R² (1 + Σ a²/2);   3-D approximate: 4π/3 R³ (no first-order term)
  That these are the first-order expansions of the true curvature / volume / perimeter of the shape
  (H[R(1+εu)] = 1/R − ε(2u + Δ_S u)/(2R) + O(ε²)) is what the `*_first_order` theorems prove, from the
  geometry in Lemmas/Fourier and Lemmas/SphereVol.  Mathlib has no spherical harmonics, so in 3-D the
  harmonics enter through their eigen-equation Δ_S Y_lm = −l(l+1) Y_lm as a hypothesis (from which
  ∫Y_lm = 0 for l ≥ 1 follows); the harness monitors that hypothesis on the real wrappers and validates
  what is beyond first order numerically (finite-difference mean curvature, quadrature volumes).
  The axisymmetric class runs the loops of the 3-D class with mode l of degree l (`axi_eq_p3d`), and its
  solid of revolution is the radial graph without azimuthal dependence: its volume theorem is an instance
  of the 3-D one.
-/
import DropletsVerif.Lemmas.RealInst
import DropletsVerif.Generated.Perturbed
import DropletsVerif.Lemmas.SphereVol
import Mathlib.Tactic

namespace DV.C13
open DV.Gen

/-! ### sums over enumerated amplitudes -/

/-- `Σ_i g (start + i) xs[i]` -/
def esum {β : Type} (g : ℕ → β → ℝ) : List β → ℕ → ℝ
  | [], _ => 0
  | x :: xs, start => g start x + esum g xs (start + 1)

theorem foldEnum_eq_esum {β : Type} {f : ℝ → ℕ → β → ℝ} (g : ℕ → β → ℝ) (h : ∀ acc n x, f acc n x = acc + g n x)
    (xs : List β) (init : ℝ) (start : ℕ) : foldEnum f init xs start = init + esum g xs start := by
  induction xs generalizing init start with
  | nil => simp [foldEnum, esum]
  | cons x xs ih => simp only [foldEnum, esum, h, ih, add_assoc]

theorem esum_smul {β : Type} (g : ℕ → β → ℝ) (c : ℝ) (xs : List β) (start : ℕ) :
    esum (fun n x => c * g n x) xs start = c * esum g xs start := by
  induction xs generalizing start with
  | nil => simp [esum]
  | cons x xs ih => simp [esum, ih]; ring

theorem esum_add {β : Type} (g h : ℕ → β → ℝ) (xs : List β) (start : ℕ) :
    esum (fun n x => g n x + h n x) xs start = esum g xs start + esum h xs start := by
  induction xs generalizing start with
  | nil => simp [esum]
  | cons x xs ih => simp [esum, ih]; ring

theorem esum_map {β γ : Type} (g : ℕ → γ → ℝ) (f : β → γ) (xs : List β) (start : ℕ) :
    esum g (xs.map f) start = esum (fun n x => g n (f x)) xs start := by
  induction xs generalizing start with
  | nil => rfl
  | cons x xs ih => simp only [List.map_cons, esum, ih]

/-! ### 2-D -/

/-- harmonic of mode `n` with the amplitude pair `(a, b)` -/
noncomputable def term2 (φ : ℝ) (n : ℕ) (ab : ℝ × ℝ) : ℝ :=
  ab.1 * Real.sin (n * φ) + ab.2 * Real.cos (n * φ)

/-- **Interface distance = R (1 + Σ_n a_n sin nφ + b_n cos nφ)**; the `if a != 0` guards are no-ops -/
theorem p2d_distance_eq_spec (R φ : ℝ) (amps : List ℝ) :
    p2d_distance R amps φ = R * (1 + esum (term2 φ) (pairs 0 amps) 1) := by
  unfold p2d_distance
  simp only [dnum_lit, dnum_sin, dnum_cos, dnum_eqz_false]
  rw [foldEnum_eq_esum (term2 φ)]
  · simp
  · intro acc n ab
    by_cases h1 : ab.1 = 0 <;> by_cases h2 : ab.2 = 0 <;> simp [term2, h1, h2] <;> ring

/-- **Linearised curvature in 2-D = 1 / (R (1 − Σ_n (n²−1)(a_n sin nφ + b_n cos nφ)))** -/
theorem p2d_curvature_eq_spec (R φ : ℝ) (amps : List ℝ) :
    p2d_curvature R amps φ =
      1 / (R * (1 - esum (fun n ab => ((n : ℝ) * n - 1) * term2 φ n ab) (pairs 0 amps) 1)) := by
  unfold p2d_curvature
  simp only [dnum_lit, dnum_sin, dnum_cos, dnum_eqz_false, Nat.cast_one, Nat.cast_zero]
  rw [foldEnum_eq_esum fun n ab => -1 * (((n : ℝ) * n - 1) * term2 φ n ab), esum_smul, neg_one_mul, ← sub_eq_add_neg]
  intro acc n ab
  by_cases h1 : ab.1 = 0 <;> by_cases h2 : ab.2 = 0 <;> simp [term2, h1, h2] <;> ring

theorem foldl_add_sq (l : List ℝ) (init : ℝ) : List.foldl (fun acc x => acc + x ^ 2) init l = init + (l.map (· ^ 2)).sum := by
  induction l generalizing init with
  | nil => simp
  | cons x l ih => simp [ih]; ring

/-- **2-D volume = π R² (1 + Σ a²/2)** -/
theorem p2d_volume_eq_spec (R : ℝ) (amps : List ℝ) :
    p2d_volume R amps = Real.pi * R ^ 2 * (1 + (amps.map (· ^ 2)).sum / 2) := by
  simp [p2d_volume, foldl_add_sq]

/-- the radius `set_volume` chooses: `√(v / (π (1 + Σ a²/2)))` -/
theorem p2d_set_volume_eq_spec (v : ℝ) (amps : List ℝ) :
    p2d_set_volume v amps = Real.sqrt (v / (Real.pi * (1 + (amps.map (· ^ 2)).sum / 2))) := by
  simp only [p2d_set_volume, dnum_lit, dnum_pi, dnum_sqrt, dnum_npow, foldl_add_sq, Nat.cast_zero, zero_add, Nat.cast_one,
    Nat.cast_ofNat]

/-- **Setting the volume and reading it back returns the value set** (relative perturbations kept) -/
theorem p2d_volume_setter_getter (v : ℝ) (hv : 0 ≤ v) (amps : List ℝ) :
    p2d_volume (p2d_set_volume v amps) amps = v := by
  have hs : 0 ≤ (amps.map (· ^ 2)).sum := List.sum_nonneg fun x hx => by
    obtain ⟨y, _, rfl⟩ := List.mem_map.mp hx
    positivity
  have hpi := Real.pi_pos
  rw [p2d_volume_eq_spec, p2d_set_volume_eq_spec, Real.sq_sqrt (div_nonneg hv (by positivity))]
  field_simp

/-! ### 3-D and axisymmetric: sums over single amplitudes with an arbitrary harmonic table -/

/-- `PerturbedDroplet3DAxisSym` runs the loops of `PerturbedDroplet3D`, with mode `l` of degree `l` -/
theorem axi_eq_p3d (R : ℝ) (amps : List ℝ) (Y : ℕ → ℝ) (deg : ℕ → ℕ) :
    axi_distance R amps Y deg = p3d_distance R amps Y deg ∧ axi_curvature R amps Y deg = p3d_curvature R amps Y (fun l => l) ∧
    axi_volume_approx R amps = p3d_volume_approx R amps :=
  ⟨rfl, rfl, rfl⟩

/-- **Interface distance = R (1 + Σ_k a_k Y_k)** -/
theorem p3d_distance_eq_spec (R : ℝ) (amps : List ℝ) (Y : ℕ → ℝ) (deg : ℕ → ℕ) :
    p3d_distance R amps Y deg = R * (1 + esum (fun k a => a * Y k) amps 1) ∧
    axi_distance R amps Y deg = R * (1 + esum (fun k a => a * Y k) amps 1) := by
  have h : p3d_distance R amps Y deg = R * (1 + esum (fun k a => a * Y k) amps 1) := by
    simp only [p3d_distance, dnum_lit, dnum_eqz_false]
    rw [foldEnum_eq_esum fun k a => a * Y k]
    · simp
    · intro acc k a
      by_cases h : a = 0 <;> simp [h]
  exact ⟨h, h⟩

/-- linearised curvature weight of a mode of degree `l` -/
noncomputable def hdeg (l : ℕ) : ℝ := ((l : ℝ) ^ 2 + l - 2) / 2

/-- **Linearised mean curvature in 3-D = 1/R + (1/R) Σ_k a_k h(l_k) Y_k: ALL modes contribute and
the correction scales like 1/R** -/
theorem p3d_curvature_eq_spec (R : ℝ) (amps : List ℝ) (Y : ℕ → ℝ) (deg : ℕ → ℕ) :
    p3d_curvature R amps Y deg = 1 / R + esum (fun k a => a * hdeg (deg k) * Y k) amps 1 / R := by
  simp only [p3d_curvature, dnum_lit, dnum_eqz_false, dnum_npow]
  rw [foldEnum_eq_esum fun k a => a * hdeg (deg k) * Y k]
  · simp
  · intro acc k a
    by_cases h : a = 0 <;> simp [h, hdeg]

theorem axi_curvature_eq_spec (R : ℝ) (amps : List ℝ) (Y : ℕ → ℝ) (deg : ℕ → ℕ) :
    axi_curvature R amps Y deg = 1 / R + esum (fun l a => a * hdeg l * Y l) amps 1 / R :=
  p3d_curvature_eq_spec R amps Y fun l => l

/-- **Curvature of a perturbed shape scales inversely with its size** (the shape R·(1+u) is the
unit shape magnified by R), for any radius and any combination of modes -/
theorem curvature_scales_inverse (R : ℝ) (amps : List ℝ) (Y : ℕ → ℝ) (deg : ℕ → ℕ) :
    p3d_curvature R amps Y deg = p3d_curvature 1 amps Y deg / R ∧
    axi_curvature R amps Y deg = axi_curvature 1 amps Y deg / R := by
  rw [p3d_curvature_eq_spec, p3d_curvature_eq_spec, axi_curvature_eq_spec, axi_curvature_eq_spec]
  constructor <;> · simp; ring

theorem distance_scales (R : ℝ) (amps : List ℝ) (Y : ℕ → ℝ) (deg : ℕ → ℕ) (φ : ℝ) :
    p3d_distance R amps Y deg = R * p3d_distance 1 amps Y deg ∧
    p2d_distance R amps φ = R * p2d_distance 1 amps φ := by
  rw [(p3d_distance_eq_spec R amps Y deg).1, (p3d_distance_eq_spec 1 amps Y deg).1,
    p2d_distance_eq_spec, p2d_distance_eq_spec]
  constructor <;> ring

/-- **The approximate volume has no first-order term**: it is the sphere's volume -/
theorem volume_approx_eq_spec (R : ℝ) (amps : List ℝ) :
    p3d_volume_approx R amps = 4 / 3 * Real.pi * R ^ 3 ∧ axi_volume_approx R amps = 4 / 3 * Real.pi * R ^ 3 := by
  simp [p3d_volume_approx, axi_volume_approx, sphereVolume3]

/-! ### mode indexing (`spherical_index_lm`, `spherical_index_k`, `spherical_index_count*`) -/

/-- degree and order of mode `k`: `l = ⌊√k⌋`, `m = k − l(l+1)` -/
def lmOf (k : ℕ) : ℕ × ℤ := (Nat.sqrt k, (k : ℤ) - (Nat.sqrt k : ℤ) * ((Nat.sqrt k : ℤ) + 1))

/-- **Every mode index is a valid (degree, order) pair and maps back to itself** -/
theorem lm_roundtrip (k : ℕ) :
    -((lmOf k).1 : ℤ) ≤ (lmOf k).2 ∧ (lmOf k).2 ≤ (lmOf k).1 ∧
    ((lmOf k).1 : ℤ) * ((lmOf k).1 + 1) + (lmOf k).2 = k := by
  have h1 : ((Nat.sqrt k : ℤ)) * (Nat.sqrt k : ℤ) ≤ k := by exact_mod_cast Nat.sqrt_le k
  have h2 : (k : ℤ) < ((Nat.sqrt k : ℤ) + 1) * ((Nat.sqrt k : ℤ) + 1) := by exact_mod_cast Nat.lt_succ_sqrt k
  simp only [lmOf]
  refine ⟨by linarith, by linarith, by ring⟩

/-- `(l, m) ↦ l(l+1) + m ↦ (l, m)` for `−l ≤ m ≤ l` -/
theorem k_roundtrip (l : ℕ) (m : ℤ) (h1 : -(l : ℤ) ≤ m) (h2 : m ≤ l) :
    ∃ k : ℕ, (k : ℤ) = (l : ℤ) * (l + 1) + m ∧ lmOf k = (l, m) := by
  have hk : 0 ≤ (l : ℤ) * (l + 1) + m := by linarith [mul_self_nonneg (l : ℤ)]
  refine ⟨((l : ℤ) * (l + 1) + m).toNat, Int.toNat_of_nonneg hk, ?_⟩
  have hsq : Nat.sqrt (((l : ℤ) * (l + 1) + m).toNat) = l := by
    symm
    rw [Nat.eq_sqrt]
    constructor
    · have : ((l * l : ℕ) : ℤ) ≤ (l : ℤ) * (l + 1) + m := by push_cast; linarith
      exact_mod_cast (Int.le_toNat hk).mpr this
    · have : (l : ℤ) * (l + 1) + m < (((l + 1) * (l + 1) : ℕ) : ℤ) := by push_cast; linarith
      exact_mod_cast (Int.toNat_lt hk).mpr this
  simp only [lmOf, hsq, Int.toNat_of_nonneg hk, Prod.mk.injEq, true_and]
  ring

/-- the left-hand side is the body of `spherical_index_count(l)`, the number of modes up to degree `l`: a perfect
square, which is what `spherical_index_count_optimal` tests for -/
theorem count_is_square (l : ℕ) : 1 + 2 * l + l * l = (l + 1) * (l + 1) := by ring

/-! ### 2-D: the reported quantities ARE the geometry of the outline (Lemmas/Fourier.lean) -/

open DV.Fourier Real

theorem esum_term2_eq_tp (φ : ℝ) (ps : List (ℝ × ℝ)) (s : ℕ) : esum (term2 φ) ps s = tp ps s φ := by
  induction ps generalizing s with
  | nil => rfl
  | cons p ps ih => simp only [esum, tp, term2, ih]

theorem esum_w_eq_tpw (w : ℕ → ℝ) (φ : ℝ) (ps : List (ℝ × ℝ)) (s : ℕ) :
    esum (fun n ab => w n * term2 φ n ab) ps s = tpw w ps s φ := by
  induction ps generalizing s with
  | nil => rfl
  | cons p ps ih =>
    have := ih (s + 1)
    simp only [esum, tpw, this]
    simp only [term2]

theorem sqsum_pairs : ∀ amps : List ℝ, sqsum (pairs 0 amps) = (amps.map (· ^ 2)).sum
  | [] => by simp [pairs, sqsum]
  | [a] => by simp [pairs, sqsum]
  | a :: b :: rest => by
    have ih := sqsum_pairs rest
    simp only [pairs, sqsum, List.map_cons, List.sum_cons] at ih ⊢
    rw [ih]; ring

theorem pairs_scale (c : ℝ) : ∀ amps : List ℝ,
    pairs 0 (amps.map (c * ·)) = (pairs 0 amps).map fun p => (c * p.1, c * p.2)
  | [] => by simp [pairs]
  | [a] => by simp [pairs]
  | a :: b :: rest => by
    have ih := pairs_scale c rest
    simp only [pairs, List.map_cons, ih]

/-- **The reported 2-D volume is the area enclosed by the interface-distance function**:
`π R² (1 + Σ a²/2) = ∫₀^{2π} ½ r(φ)² dφ` with `r = interface_distance`, for every mode count and all amplitudes. -/
theorem p2d_volume_is_area (R : ℝ) (amps : List ℝ) :
    p2d_volume R amps = ∫ φ in (0:ℝ)..(2 * π), (p2d_distance R amps φ) ^ 2 / 2 := by
  rw [p2d_volume_eq_spec]
  simp_rw [p2d_distance_eq_spec, esum_term2_eq_tp]
  rw [polar_area, sqsum_pairs]

theorem p2d_distance_scaled (R ε φ : ℝ) (amps : List ℝ) :
    p2d_distance R (amps.map (ε * ·)) φ = R * (1 + ε * tp (pairs 0 amps) 1 φ) := by
  rw [p2d_distance_eq_spec, esum_term2_eq_tp, pairs_scale, tp_smul]

theorem p2d_curvature_scaled (R ε φ : ℝ) (amps : List ℝ) :
    p2d_curvature R (amps.map (ε * ·)) φ =
      1 / (R * (1 + ε * (tp (pairs 0 amps) 1 φ + tp (dmap 1 (dmap 1 (pairs 0 amps))) 1 φ))) := by
  rw [p2d_curvature_eq_spec, esum_w_eq_tpw, pairs_scale, tpw_smul, tp_add_dd]
  congr 2
  ring

theorem p2d_distance_hasDerivAt (R ε φ : ℝ) (amps : List ℝ) :
    HasDerivAt (fun t => p2d_distance R (amps.map (ε * ·)) t) (R * (ε * tp (dmap 1 (pairs 0 amps)) 1 φ)) φ := by
  simp only [p2d_distance_scaled]
  exact (((tp_hasDerivAt _ 1 φ).const_mul ε).const_add 1).const_mul R

/-- **The reported 2-D curvature agrees with the true curvature of the outline to first order in the
amplitudes**, for any radius, any number of modes and any direction.  With all amplitudes scaled by `ε`,
`r_ε = interface_distance` is the radius function of the outline `t ↦ centre + r_ε(t)(cos t, sin t)`
(`interface_position`), `r1`, `r2` are its first and second derivatives (proved), the true signed
curvature of that plane curve is `polarCurv r r' r''` (`polar_param_curv`), and

  * at `ε = 0` both the true and the reported curvature equal `1/R`;
  * their derivatives with respect to `ε` at `ε = 0` coincide. -/
theorem p2d_curvature_first_order (R φ : ℝ) (hR : 0 < R) (amps : List ℝ) :
    let r : ℝ → ℝ → ℝ := fun ε t => p2d_distance R (amps.map (ε * ·)) t
    let r1 : ℝ → ℝ → ℝ := fun ε t => R * (ε * tp (dmap 1 (pairs 0 amps)) 1 t)
    let r2 : ℝ → ℝ → ℝ := fun ε t => R * (ε * tp (dmap 1 (dmap 1 (pairs 0 amps))) 1 t)
    (∀ ε t, HasDerivAt (r ε) (r1 ε t) t) ∧ (∀ ε t, HasDerivAt (r1 ε) (r2 ε t) t) ∧
    polarCurv (r 0 φ) (r1 0 φ) (r2 0 φ) = 1 / R ∧ p2d_curvature R (amps.map ((0:ℝ) * ·)) φ = 1 / R ∧
    ∃ d, HasDerivAt (fun ε => polarCurv (r ε φ) (r1 ε φ) (r2 ε φ)) d 0 ∧
         HasDerivAt (fun ε => p2d_curvature R (amps.map (ε * ·)) φ) d 0 := by
  intro r r1 r2
  refine ⟨fun ε t => p2d_distance_hasDerivAt R ε t amps, fun ε t => ((tp_hasDerivAt _ 1 t).const_mul ε).const_mul R, ?_, ?_,
    -(tp (pairs 0 amps) 1 φ + tp (dmap 1 (dmap 1 (pairs 0 amps))) 1 φ) / R, ?_, ?_⟩
  · simp only [r, r1, r2, p2d_distance_scaled, zero_mul, add_zero, mul_one, mul_zero]
    exact polarCurv_circle R hR
  · rw [p2d_curvature_scaled]; simp
  · simp only [r, r1, r2, p2d_distance_scaled]
    exact polarCurv_first_order R _ _ _ hR
  · simp only [p2d_curvature_scaled]
    exact codeCurv_first_order R _ _ hR

/-! ### 3-D and axisymmetric droplets: the reported curvature is the first-order mean curvature of the surface -/

theorem p3d_distance_scaled (R ε : ℝ) (amps : List ℝ) (Y : ℕ → ℝ) (deg : ℕ → ℕ) :
    p3d_distance R (amps.map (ε * ·)) Y deg = R * (1 + ε * esum (fun k a => a * Y k) amps 1) := by
  rw [(p3d_distance_eq_spec R _ Y deg).1, esum_map, ← esum_smul]
  simp only [mul_assoc]

theorem p3d_curvature_scaled (R ε : ℝ) (amps : List ℝ) (Y : ℕ → ℝ) (deg : ℕ → ℕ) :
    p3d_curvature R (amps.map (ε * ·)) Y deg = 1 / R + ε * esum (fun k a => a * hdeg (deg k) * Y k) amps 1 / R := by
  rw [p3d_curvature_eq_spec, esum_map, ← esum_smul]
  simp only [mul_assoc]

/-- **With all amplitudes zero every quantity reduces to that of a sphere / circle** -/
theorem zero_amplitudes_reduce (R φ : ℝ) (amps : List ℝ) (Y : ℕ → ℝ) (deg : ℕ → ℕ) (h : ∀ a ∈ amps, a = 0) :
    p2d_distance R amps φ = R ∧ p2d_curvature R amps φ = 1 / R ∧ p2d_volume R amps = Real.pi * R ^ 2 ∧
    p3d_distance R amps Y deg = R ∧ axi_distance R amps Y deg = R ∧
    p3d_curvature R amps Y deg = 1 / R ∧ axi_curvature R amps Y deg = 1 / R := by
  -- a list of zeros is any list scaled by `ε = 0`
  rw [show amps = amps.map ((0 : ℝ) * ·) by
    conv_lhs => rw [← List.map_id amps]
    exact List.map_congr_left fun a ha => by rw [h a ha, mul_zero, id]]
  refine ⟨by rw [p2d_distance_scaled]; simp, by rw [p2d_curvature_scaled]; simp, by rw [p2d_volume_eq_spec]; simp,
    by rw [p3d_distance_scaled]; simp, by rw [(axi_eq_p3d R _ Y deg).1, p3d_distance_scaled]; simp,
    by rw [p3d_curvature_scaled]; simp, by rw [(axi_eq_p3d R _ Y deg).2.1, p3d_curvature_scaled]; simp⟩

theorem p3d_curvature_hasDerivAt (R : ℝ) (amps : List ℝ) (Y : ℕ → ℝ) (deg : ℕ → ℕ) :
    p3d_curvature R (amps.map ((0 : ℝ) * ·)) Y deg = 1 / R ∧
    HasDerivAt (fun ε => p3d_curvature R (amps.map (ε * ·)) Y deg) (esum (fun k a => a * hdeg (deg k) * Y k) amps 1 / R) 0 := by
  simp only [p3d_curvature_scaled]
  exact ⟨by simp, by simpa using (((hasDerivAt_id (0 : ℝ)).mul_const _).div_const R).const_add (1 / R)⟩

/-- the eigen-equation summed over the modes, `2u + Lu = −2 Σ_k a_k h(l_k) Y_k`: where the weight `h(l) = (l² + l − 2)/2` comes from -/
theorem esum_eigen (amps : List ℝ) (Y L : ℕ → ℝ) (deg : ℕ → ℕ) (h : ∀ k, L k = -((deg k : ℝ) * (deg k + 1)) * Y k) (start : ℕ) :
    2 * esum (fun k a => a * Y k) amps start + esum (fun k a => a * L k) amps start =
      -2 * esum (fun k a => a * hdeg (deg k) * Y k) amps start := by
  rw [← esum_smul, ← esum_smul, ← esum_add]
  congr 1; funext k a
  rw [h, hdeg]; ring

/-- **The reported curvature of an axisymmetric perturbed droplet is the first-order mean curvature of its own surface.**
The surface of `PerturbedDroplet3DAxisSym` is the surface of revolution with polar profile `r(θ) = interface_distance(θ)` (regenerated
`axi_distance`); `Y l`, `Y1 l`, `Y2 l` are the values of the degree-`l` harmonic and of its first and second `θ`-derivative in the direction
considered, and the only property of the harmonics used is their defining differential equation — the spherical Laplacian eigen-equation
`Y'' + cot θ · Y' = −l(l+1) Y` (Legendre's equation in the polar angle).  With the amplitudes scaled by `ε`:

  * at `ε = 0` both the true mean curvature `revMeanCurv` and the reported curvature (regenerated `axi_curvature`) equal `1/R`;
  * their derivatives with respect to `ε` at `ε = 0` coincide (`p3d_curvature_hasDerivAt` gives the value, `(1/R) Σ_l a_l (l² + l − 2)/2 · Y_l`).

So the weight `(l² + l − 2)/2`, the sum over ALL modes and the overall `1/R` of the code (defects D7/D8 were exactly these) are what geometry
demands — for every radius, every number of modes, every direction. -/
theorem axi_curvature_first_order (R c : ℝ) (hR : 0 < R) (amps : List ℝ) (Y Y1 Y2 : ℕ → ℝ) (deg : ℕ → ℕ)
    (heig : ∀ l : ℕ, Y2 l + c * Y1 l = -((l : ℝ) * (l + 1)) * Y l) :
    let r : ℝ → ℝ := fun ε => axi_distance R (amps.map (ε * ·)) Y deg
    let r1 : ℝ → ℝ := fun ε => R * (ε * esum (fun l a => a * Y1 l) amps 1)
    let r2 : ℝ → ℝ := fun ε => R * (ε * esum (fun l a => a * Y2 l) amps 1)
    revMeanCurv (r 0) (r1 0) (r2 0) c = 1 / R ∧ axi_curvature R (amps.map ((0 : ℝ) * ·)) Y deg = 1 / R ∧
    ∃ d, HasDerivAt (fun ε => revMeanCurv (r ε) (r1 ε) (r2 ε) c) d 0 ∧
         HasDerivAt (fun ε => axi_curvature R (amps.map (ε * ·)) Y deg) d 0 := by
  intro r r1 r2
  have hr : ∀ ε, r ε = R * (1 + ε * esum (fun l a => a * Y l) amps 1) := fun ε =>
    (axi_eq_p3d R _ Y deg).1.trans (p3d_distance_scaled R ε amps Y deg)
  obtain ⟨hc0, hc1⟩ := p3d_curvature_hasDerivAt R amps Y fun l => l
  simp only [← fun a => (axi_eq_p3d R a Y deg).2.1] at hc0 hc1
  have hsum := esum_eigen amps Y (fun l => Y2 l + c * Y1 l) (fun l => l) heig 1
  have hL : esum (fun l a => a * (Y2 l + c * Y1 l)) amps 1 =
      esum (fun l a => a * Y2 l) amps 1 + c * esum (fun l a => a * Y1 l) amps 1 := by
    rw [← esum_smul, ← esum_add]
    congr 1; funext l a; ring
  refine ⟨?_, hc0, _, ?_, hc1⟩
  · simp only [hr, r1, r2, zero_mul, add_zero, mul_one, mul_zero]
    exact revMeanCurv_sphere R c hR
  · simp only [hr, r1, r2]
    refine (revMeanCurv_first_order R _ _ _ c hR).2.congr_deriv ?_
    rw [add_assoc, ← hL, hsum]
    ring

/-- **The reported curvature of a perturbed 3-D droplet is the first-order mean curvature of its own surface.**
The surface of `PerturbedDroplet3D` is the radial graph `r(θ, φ) e_r` with `r = interface_distance` (regenerated `p3d_distance`); `Y k`,
`Yt k`, `Yp k`, `Ytt k`, `Ytp k`, `Ypp k` are the values of mode `k` and of its partial derivatives in the direction considered (`s = sin θ > 0`,
`c = cos θ`), and the only property of the harmonics used is that mode `k` is an eigenfunction of the spherical Laplacian with eigenvalue
`−l(l+1)`, `l = deg k` its degree:  `Y_θθ + cot θ · Y_θ + Y_φφ / sin²θ = −l(l+1) Y`.  With the amplitudes scaled by `ε`, the true mean curvature
(`radialMeanCurv`: fundamental forms of the radial graph, cross-checked against the surface of revolution by `radialMeanCurv_axisym`) and the
reported curvature (regenerated `p3d_curvature`) both equal `1/R` at `ε = 0` and have the same `ε`-derivative there (which is
`(1/R) Σ_k a_k (l_k² + l_k − 2)/2 · Y_k` by `p3d_curvature_hasDerivAt`) — for every radius, every number and combination of modes, every
direction off the poles. -/
theorem p3d_curvature_first_order (R s c : ℝ) (hR : 0 < R) (hs : 0 < s) (amps : List ℝ) (Y Yt Yp Ytt Ytp Ypp : ℕ → ℝ) (deg : ℕ → ℕ)
    (heig : ∀ k : ℕ, Ytt k + c / s * Yt k + Ypp k / s ^ 2 = -((deg k : ℝ) * (deg k + 1)) * Y k) :
    let r : ℝ → ℝ := fun ε => p3d_distance R (amps.map (ε * ·)) Y deg
    let d1 : (ℕ → ℝ) → ℝ → ℝ := fun Z ε => R * (ε * esum (fun k a => a * Z k) amps 1)
    radialMeanCurv (r 0) (d1 Yt 0) (d1 Yp 0) (d1 Ytt 0) (d1 Ytp 0) (d1 Ypp 0) s c = 1 / R ∧
    p3d_curvature R (amps.map ((0 : ℝ) * ·)) Y deg = 1 / R ∧
    ∃ d, HasDerivAt (fun ε => radialMeanCurv (r ε) (d1 Yt ε) (d1 Yp ε) (d1 Ytt ε) (d1 Ytp ε) (d1 Ypp ε) s c) d 0 ∧
         HasDerivAt (fun ε => p3d_curvature R (amps.map (ε * ·)) Y deg) d 0 := by
  intro r d1
  have hr : ∀ ε, r ε = R * (1 + ε * esum (fun k a => a * Y k) amps 1) := fun ε => p3d_distance_scaled R ε amps Y deg
  obtain ⟨hc0, hc1⟩ := p3d_curvature_hasDerivAt R amps Y deg
  have hsum := esum_eigen amps Y (fun k => Ytt k + c / s * Yt k + Ypp k / s ^ 2) deg heig 1
  have hL : esum (fun k a => a * (Ytt k + c / s * Yt k + Ypp k / s ^ 2)) amps 1 =
      esum (fun k a => a * Ytt k) amps 1 + c / s * esum (fun k a => a * Yt k) amps 1 + esum (fun k a => a * Ypp k) amps 1 / s ^ 2 := by
    rw [div_eq_inv_mul _ (s ^ 2), ← esum_smul, ← esum_smul, ← esum_add, ← esum_add]
    congr 1; funext k a; ring
  refine ⟨?_, hc0, _, ?_, hc1⟩
  · simp only [hr, d1, zero_mul, add_zero, mul_one, mul_zero]
    exact radialMeanCurv_sphere R s c hR hs
  · simp only [hr, d1]
    refine (radialMeanCurv_first_order R _ _ _ _ _ _ s c hR hs).2.congr_deriv ?_
    rw [← hL, hsum]
    ring

/-- non-vacuity: the degree-2 zonal harmonic `(3cos²θ − 1)/2` on the equator (`cot θ = 0`): value −½, first derivative 0, second derivative 3,
and `3 = −2·3·(−½)` — the eigen-equation holds, the mode contributes `h(2) = 2` times its value -/
example : ∃ d : ℝ, HasDerivAt (fun ε : ℝ => axi_curvature (2 : ℝ) (([0, 1] : List ℝ).map (ε * ·)) (fun l => if l = 2 then -1/2 else 0) (fun l => l)) d 0 ∧ d = -1/2 := by
  obtain ⟨_, _, d, h1, h2⟩ := axi_curvature_first_order (2 : ℝ) 0 (by norm_num) ([0, 1] : List ℝ) (fun l => if l = 2 then -1/2 else 0) (fun _ => 0)
    (fun l => if l = 2 then 3 else 0) (fun l => l) (by intro l; by_cases h : l = 2 <;> simp [h]; norm_num)
  exact ⟨d, h2, h2.unique ((p3d_curvature_hasDerivAt 2 [0, 1] _ fun l => l).2.congr_deriv (by simp [esum, hdeg]; norm_num))⟩

/-! ### 3-D and axisymmetric droplets: the volume has no first-order term -/

/-- the harmonics of the general 3-D droplet as functions on the sphere: what the volume theorem assumes of a mode of degree `l`
(that `l ≥ 1` it asks separately) -/
def HarmonicOnSphere (l : ℕ) (Y Yt Ytt Yp Ypp : ℝ → ℝ → ℝ) : Prop :=
  Continuous (Function.uncurry Y) ∧ Continuous (Function.uncurry Yt) ∧ Continuous (Function.uncurry Ytt) ∧
  (∀ θ φ, HasDerivAt (fun θ => Y θ φ) (Yt θ φ) θ) ∧ (∀ θ φ, HasDerivAt (fun θ => Yt θ φ) (Ytt θ φ) θ) ∧
  (∀ θ φ, HasDerivAt (fun φ => Y θ φ) (Yp θ φ) φ) ∧ (∀ θ φ, HasDerivAt (fun φ => Yp θ φ) (Ypp θ φ) φ) ∧
  (∀ θ, Continuous (Ypp θ)) ∧ (∀ θ, Yp θ (2 * Real.pi) = Yp θ 0) ∧
  ∀ θ φ, sin θ * (sin θ * Ytt θ φ + cos θ * Yt θ φ) + Ypp θ φ = -((l : ℝ) * (l + 1)) * (sin θ ^ 2 * Y θ φ)

/-- a combination of harmonics of degree `≥ 1` has zero mean over the sphere, mode by mode (`harmonic_mean_zero`); continuity is carried
along because additivity of the integral needs it -/
theorem esum_sphere_mean_zero (Y Yt Ytt Yp Ypp : ℕ → ℝ → ℝ → ℝ) (deg : ℕ → ℕ)
    (hdeg : ∀ k, 1 ≤ k → 1 ≤ deg k)
    (hY : ∀ k, 1 ≤ k → HarmonicOnSphere (deg k) (Y k) (Yt k) (Ytt k) (Yp k) (Ypp k))
    (amps : List ℝ) (start : ℕ) (hs : 1 ≤ start) :
    Continuous (Function.uncurry fun θ φ => esum (fun k a => a * Y k θ φ) amps start) ∧
    ∫ θ in (0 : ℝ)..π, (∫ φ in (0 : ℝ)..(2 * π), esum (fun k a => a * Y k θ φ) amps start) * sin θ = 0 := by
  induction amps generalizing start with
  | nil => exact ⟨by simp only [esum]; fun_prop, by simp [esum]⟩
  | cons a rest ih =>
    obtain ⟨hc, hi⟩ := ih (start + 1) (by omega)
    obtain ⟨hYc, hYtc, hYttc, h1, h2, _, h4, hppc, hper, heig⟩ := hY start hs
    have hz := harmonic_mean_zero (Y start) (Yt start) (Ytt start) (Yp start) (Ypp start) (deg start) (hdeg start hs)
      hYc.uncurry_left hYtc hYttc h1 h2 h4 hppc hper heig
    have ha : Continuous (Function.uncurry fun θ φ => a * Y start θ φ) := continuous_const.mul hYc
    simp only [esum]
    exact ⟨ha.add hc, by rw [sphere_integral_add ha hc, sphere_integral_const_mul, hz, hi, mul_zero, add_zero]⟩

/-- **The volume of a general (non-axisymmetric) perturbed 3-D droplet has no first-order term — `volume_approx` of `PerturbedDroplet3D` is
the sphere's volume for a reason.**  The solid bounded by the radial graph `r(θ, φ)` = regenerated `p3d_distance` (`Y k θ φ` is mode `k` in the
direction `(θ, φ)`) has the volume `sphVolume = (1/3)∫∫ r³ sin θ`.  The only facts about the harmonics that are used are their eigen-equation
`Δ_S Y_k = −l_k(l_k + 1) Y_k` (written without division by `sin θ`), `l_k ≥ 1` for the modes `k ≥ 1` that carry amplitudes, and 2π-periodicity of
`∂Y/∂φ` in the azimuth; they force zero mean over the sphere (`harmonic_mean_zero`: the azimuthal average is a zonal eigenfunction).  Hence
the true volume at `ε = 0` is the reported `p3d_volume_approx` and its `ε`-derivative vanishes, like that of the reported value. -/
theorem p3d_volume_first_order (R : ℝ) (amps : List ℝ) (Y Yt Ytt Yp Ypp : ℕ → ℝ → ℝ → ℝ) (deg : ℕ → ℕ)
    (hdeg : ∀ k, 1 ≤ k → 1 ≤ deg k)
    (hY : ∀ k, 1 ≤ k → HarmonicOnSphere (deg k) (Y k) (Yt k) (Ytt k) (Yp k) (Ypp k)) :
    sphVolume (fun θ φ => p3d_distance R (amps.map ((0 : ℝ) * ·)) (fun k => Y k θ φ) deg) = p3d_volume_approx R amps ∧
    HasDerivAt (fun ε : ℝ => sphVolume (fun θ φ => p3d_distance R (amps.map (ε * ·)) (fun k => Y k θ φ) deg)) 0 0 ∧
    HasDerivAt (fun ε : ℝ => p3d_volume_approx R (amps.map (ε * ·))) 0 0 := by
  obtain ⟨hc, hm⟩ := esum_sphere_mean_zero Y Yt Ytt Yp Ypp deg hdeg hY amps 1 le_rfl
  obtain ⟨hv0, hv1⟩ := sphVolume_first_order R (fun θ φ => esum (fun k a => a * Y k θ φ) amps 1) hc hm
  simp only [p3d_distance_scaled, (volume_approx_eq_spec R _).1]
  exact ⟨by simpa using hv0, hv1, hasDerivAt_const _ _⟩

theorem harmonicOnSphere_of_zonal {l : ℕ} {Y Y1 Y2 : ℝ → ℝ} (h1 : ∀ t, HasDerivAt Y (Y1 t) t) (h2 : ∀ t, HasDerivAt Y1 (Y2 t) t)
    (hc : Continuous Y2) (heig : ∀ t, sin t * Y2 t + cos t * Y1 t = -((l : ℝ) * (l + 1)) * (sin t * Y t)) :
    HarmonicOnSphere l (fun θ _ => Y θ) (fun θ _ => Y1 θ) (fun θ _ => Y2 θ) (fun _ _ => 0) (fun _ _ => 0) := by
  have hY1c := continuous_of_hasDerivAt h2
  have hYc := continuous_of_hasDerivAt h1
  refine ⟨hYc.comp continuous_fst, hY1c.comp continuous_fst, hc.comp continuous_fst, fun θ _ => h1 θ, fun θ _ => h2 θ,
    fun _ φ => hasDerivAt_const φ _, fun _ φ => hasDerivAt_const φ _, fun _ => continuous_const, fun _ => rfl, fun θ _ => ?_⟩
  linear_combination sin θ * heig θ

/-- **The volume of an axisymmetric perturbed droplet has no first-order term — `volume_approx` is the sphere's volume for a reason.**
The solid bounded by the surface of `PerturbedDroplet3DAxisSym` (polar profile = regenerated `axi_distance`, here as a function of the polar angle:
`Y l t` is the degree-`l` harmonic at `θ = t`) has the volume `revVolume`.  Using only the eigen-equation of the harmonics (as for the curvature) —
which forces every zonal harmonic of degree `l ≥ 1` to have zero mean over the sphere (`zonal_mean_zero`) — the true volume at `ε = 0` is the
reported `axi_volume_approx`, and its `ε`-derivative at `0` vanishes, like that of the reported value, which does not depend on the amplitudes:
the spurious first-order term of defect D9 contradicts geometry. -/
theorem axi_volume_first_order (R : ℝ) (amps : List ℝ) (Y Y1 Y2 : ℕ → ℝ → ℝ) (deg : ℕ → ℕ)
    (hY : ∀ l, 1 ≤ l → (∀ t, HasDerivAt (Y l) (Y1 l t) t) ∧ (∀ t, HasDerivAt (Y1 l) (Y2 l t) t) ∧ Continuous (Y2 l) ∧
      ∀ t, sin t * Y2 l t + cos t * Y1 l t = -((l : ℝ) * (l + 1)) * (sin t * Y l t)) :
    revVolume (fun t => axi_distance R (amps.map ((0 : ℝ) * ·)) (fun l => Y l t) deg) = axi_volume_approx R amps ∧
    HasDerivAt (fun ε : ℝ => revVolume (fun t => axi_distance R (amps.map (ε * ·)) (fun l => Y l t) deg)) 0 0 ∧
    HasDerivAt (fun ε : ℝ => axi_volume_approx R (amps.map (ε * ·))) 0 0 := by
  -- the solid of revolution is the 3-D droplet whose modes are the zonal harmonics, `l` of degree `l` (`axi_eq_p3d`)
  simp only [revVolume_eq_sphVolume]
  exact p3d_volume_first_order R amps (fun l θ _ => Y l θ) (fun l θ _ => Y1 l θ) (fun l θ _ => Y2 l θ) (fun _ _ _ => 0)
    (fun _ _ _ => 0) (fun l => l) (fun _ h => h)
    fun l hl => harmonicOnSphere_of_zonal (hY l hl).1 (hY l hl).2.1 (hY l hl).2.2.1 (hY l hl).2.2.2

/-- non-vacuity: `Y₁₀ ∝ cos θ` (degree 1, no azimuthal dependence) meets every hypothesis -/
example : HarmonicOnSphere 1 (fun θ _ => cos θ) (fun θ _ => -sin θ) (fun θ _ => -cos θ) (fun _ _ => 0) (fun _ _ => 0) :=
  harmonicOnSphere_of_zonal hasDerivAt_cos (fun t => (hasDerivAt_sin t).neg) (by fun_prop) fun t => by push_cast; ring

/-- non-vacuity with azimuthal dependence: `Y₁₁ ∝ sin θ cos φ` -/
example : HarmonicOnSphere 1 (fun θ φ => sin θ * cos φ) (fun θ φ => cos θ * cos φ) (fun θ φ => -sin θ * cos φ)
    (fun θ φ => sin θ * -sin φ) (fun θ φ => sin θ * -cos φ) := by
  refine ⟨by fun_prop, by fun_prop, by fun_prop, fun θ φ => (hasDerivAt_sin θ).mul_const _, fun θ φ => (hasDerivAt_cos θ).mul_const _,
    fun θ φ => (hasDerivAt_cos φ).const_mul _, fun θ φ => ((hasDerivAt_sin φ).neg).const_mul _, fun _ => by fun_prop, fun θ => by simp, ?_⟩
  intro θ φ
  have := sin_sq_add_cos_sq θ
  push_cast; linear_combination (sin θ * cos φ) * this

/-! ### 2-D: the perimeter has no first-order term -/

/-- `surface_area_approx` of the code: `π R (4 + Σ_n n² (a_n² + b_n²)) / 2` -/
theorem p2d_surface_approx_eq_spec (R : ℝ) (amps : List ℝ) :
    p2d_surface_approx R amps = Real.pi * R * (4 + esum (fun n ab => (n : ℝ) ^ 2 * (ab.1 ^ 2 + ab.2 ^ 2)) (pairs 0 amps) 1) / 2 := by
  simp only [p2d_surface_approx, dnum_lit, dnum_pi, dnum_npow]
  rw [foldEnum_eq_esum _ fun _ _ _ => rfl]
  norm_num

/-- **The perimeter of a perturbed 2-D droplet has no first-order term — like the reported `surface_area_approx`.**  The outline is the polar
curve `r(φ)` = regenerated `p2d_distance` with derivative `r'(φ)`; its true perimeter `∫ √(r² + r'²)` and the reported value agree at `ε = 0`
(both `2πR`) and both have the `ε`-derivative 0 there (amplitudes scaled by `ε`): the true perimeter is squeezed between `2πR` and
`2πR(1 + m₁² ε²)` for small `ε` (`perimeter_sandwich`; no zeroth mode, so the perturbation has zero mean).  The quadratic coefficient
`Σ n²(a² + b²)/4` of the code is not compared here (validated numerically by the harness against the arc length). -/
theorem p2d_perimeter_first_order (R : ℝ) (hR : 0 < R) (amps : List ℝ) :
    let P : ℝ → ℝ := fun ε => polarPerimeter (fun φ => p2d_distance R (amps.map (ε * ·)) φ)
      (fun φ => R * (ε * tp (dmap 1 (pairs 0 amps)) 1 φ))
    (∀ ε φ, HasDerivAt (fun t => p2d_distance R (amps.map (ε * ·)) t) (R * (ε * tp (dmap 1 (pairs 0 amps)) 1 φ)) φ) ∧
    P 0 = 2 * Real.pi * R ∧ p2d_surface_approx R (amps.map ((0 : ℝ) * ·)) = 2 * Real.pi * R ∧
    HasDerivAt P 0 0 ∧ HasDerivAt (fun ε => p2d_surface_approx R (amps.map (ε * ·))) 0 0 := by
  intro P
  -- `l1` bounds the perturbation and its derivative
  obtain ⟨hP0, hP⟩ := polarPerimeter_first_order R hR _ _ (tp_continuous (pairs 0 amps) 1) (tp_continuous (dmap 1 (pairs 0 amps)) 1)
    _ _ (tp_bound _ 1) (tp_bound _ 1) (tp_orth (pairs 0 amps) 1 le_rfl).1
  have hcode : ∀ ε, p2d_surface_approx R (amps.map (ε * ·)) = 2 * Real.pi * R + 0 * ε +
      (Real.pi * R * esum (fun n ab => (n : ℝ) ^ 2 * (ab.1 ^ 2 + ab.2 ^ 2)) (pairs 0 amps) 1 / 2) * ε ^ 2 := by
    intro ε
    have h : esum (fun n ab => (n : ℝ) ^ 2 * ((ε * ab.1) ^ 2 + (ε * ab.2) ^ 2)) (pairs 0 amps) 1 =
        ε ^ 2 * esum (fun n ab => (n : ℝ) ^ 2 * (ab.1 ^ 2 + ab.2 ^ 2)) (pairs 0 amps) 1 := by
      rw [← esum_smul]
      congr 1; funext n ab; ring
    rw [p2d_surface_approx_eq_spec, pairs_scale, esum_map, h]
    ring
  refine ⟨fun ε φ => p2d_distance_hasDerivAt R ε φ amps, ?_, ?_, ?_, ?_⟩
  · simpa only [P, p2d_distance_scaled] using hP0
  · rw [hcode]; ring
  · simpa only [P, p2d_distance_scaled] using hP
  · simp only [hcode]
    exact quad_deriv _ _ _

end DV.C13
