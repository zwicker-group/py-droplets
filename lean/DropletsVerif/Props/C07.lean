/-
  C07 — Tracks follow droplet identity.
  Theorems about the matching rules of `DV.Track` (Model/Track.lean): overlap method
  (`procDroplet`/`stepOverlap`) and distance method (`greedy`), for every overlap table, distance
  table and cut-off.  The metric itself (periodic when a grid is given) enters through the tables,
  which the correspondence check computes with the real `overlaps` / `cdist` calls and compares
  with an independent periodic metric.
-/
import DropletsVerif.Props.C06

namespace DV.C07
open DV.Track DV.C06

variable {τ : Type}

/-- consecutive droplets of a track overlap -/
def Linked (ov : Nat → Nat → Bool) : Track τ → Prop
  | [] => True
  | [_] => True
  | a :: b :: rest => ov a.1 b.1 = true ∧ Linked ov (b :: rest)

theorem linked_iff_isChain (ov : Nat → Nat → Bool) (tr : Track τ) :
    Linked ov tr ↔ tr.IsChain fun a b => ov a.1 b.1 = true := by
  induction tr with
  | nil => simp [Linked]
  | cons a tr ih =>
    cases tr with
    | nil => simp [Linked]
    | cons b tr => rw [Linked, ih, List.isChain_cons_cons]

theorem linked_snoc (ov : Nat → Nat → Bool) (tr : Track τ) (d : Nat) (t : τ)
    (hl : Linked ov tr) (hlast : ∀ a, lastId tr = some a → ov a d = true) :
    Linked ov (tr ++ [(d, t)]) := by
  rw [linked_iff_isChain] at hl ⊢
  refine List.isChain_append.mpr ⟨hl, List.isChain_singleton _, fun x hx y hy => ?_⟩
  cases List.mem_singleton.mp (by simpa using hy)
  exact hlast x.1 (by simp [lastId, Option.mem_def.mp hx])

theorem mem_modify {β : Type} (f : β → β) (l : List β) (i : Nat) (x : β) (h : x ∈ l.modify i f) :
    x ∈ l ∨ ∃ (hi : i < l.length), x = f l[i] := by
  obtain ⟨j, hj, rfl⟩ := List.getElem_of_mem h
  rw [List.getElem_modify]
  split_ifs with hij
  · exact .inr ⟨hij ▸ List.length_modify f l i ▸ hj, by subst hij; rfl⟩
  · exact .inl (List.getElem_mem _)

/-- does the droplet that track `i` ended with at frame start overlap droplet `d`?  (the predicate by which
`hits ov alive old d` filters `alive`) -/
def relB (ov : Nat → Nat → Bool) (old : List (Track τ)) (i d : Nat) : Bool :=
  match lastOf old i with
  | some a => ov a d
  | none => false

/-- droplets of the frame without any overlapping alive track -/
def unmatched (ov : Nat → Nat → Bool) (alive : List Nat) (old : List (Track τ)) (ds : List Nat) : List Nat :=
  ds.filter fun d => !(alive.any fun i => relB ov old i d)

/-- after the droplets `done` of a frame, track `i` has been extended by `d` iff `i` is alive and
overlaps `d`; the new tracks are the unmatched droplets, in order -/
def OneInv (ov : Nat → Nat → Bool) (t : τ) (alive : List Nat) (old : List (Track τ)) (done : List Nat)
    (cur : List (Track τ)) : Prop :=
  ∃ ext fresh, cur = ext ++ fresh ∧ ext.length = old.length ∧
    (∀ i (h : i < old.length) (h' : i < ext.length),
        (ext[i] = old[i] ∧ ∀ d ∈ done, ¬ (i ∈ alive ∧ relB ov old i d = true)) ∨
        (∃ d ∈ done, i ∈ alive ∧ relB ov old i d = true ∧ ext[i] = old[i] ++ [(d, t)])) ∧
    fresh = (unmatched ov alive old done).map fun d => [(d, t)]

/-- what `overlap_one_to_one` assumes of the droplets of a frame, in the order in which they are
processed: no droplet overlaps a later one or is related to an alive track that a later one is
related to, and each is related to at most one alive track -/
def OneToOne (ov : Nat → Nat → Bool) (alive : List Nat) (old : List (Track τ)) (ds : List Nat) : Prop :=
  ds.Pairwise (fun a b => ov a b = false ∧
      ∀ i ∈ alive, relB ov old i a = true → relB ov old i b = false) ∧
    ∀ d ∈ ds, ∀ i ∈ alive, ∀ j ∈ alive, relB ov old i d = true → relB ov old j d = true → i = j

/-- the links are exactly the related pairs, no track has two, and the unrelated droplets start
the new tracks -/
def OneLinks (ov : Nat → Nat → Bool) (alive : List Nat) (old : List (Track τ)) (ds : List Nat)
    (links : List (Nat × Nat)) (rest : List Nat) : Prop :=
  (links.map (·.1)).Nodup ∧
    (∀ i d, (i, d) ∈ links ↔ d ∈ ds ∧ i ∈ alive ∧ relB ov old i d = true) ∧
    rest = unmatched ov alive old ds

section
variable {ov : Nat → Nat → Bool} {alive : List Nat} {old : List (Track τ)} {ds : List Nat}
  {links : List (Nat × Nat)} {rest : List Nat} {d : Nat}

theorem oneToOne_init (h : OneToOne ov alive old (ds ++ [d])) : OneToOne ov alive old ds :=
  ⟨(List.pairwise_append.mp h.1).1, fun d hd => h.2 d (List.mem_append_left _ hd)⟩

theorem oneLinks_oneInv (t : τ) (h : OneLinks ov alive old ds links rest) :
    OneInv ov t alive old ds (extend t old links rest) := by
  obtain ⟨hnd, hl, rfl⟩ := h
  refine ⟨_, _, rfl, length_applyLinks .., fun i h h' => ?_, rfl⟩
  rcases getElem_applyLinks t old hnd i h' h with ⟨he, hi⟩ | ⟨d, hd, he⟩
  · exact .inl ⟨he, fun d hd hr => hi (List.mem_map.mpr ⟨_, (hl i d).mpr ⟨hd, hr⟩, rfl⟩)⟩
  · obtain ⟨hd, ha, hr⟩ := (hl i d).mp hd
    exact .inr ⟨d, hd, ha, hr, he⟩

theorem oneLinks_hits (t : τ) (hal : ∀ i ∈ alive, i < old.length)
    (h : OneToOne ov alive old (ds ++ [d])) (hl : OneLinks ov alive old ds links rest) :
    hits ov alive (extend t old links rest) d = alive.filter (fun i => relB ov old i d) ∧
      ∀ i ∈ alive, relB ov old i d = true → i ∉ links.map (·.1) := by
  have hd : ∀ a ∈ ds, ov a d = false ∧ ∀ i ∈ alive, relB ov old i a = true → relB ov old i d = false :=
    fun a ha => (List.pairwise_append.mp h.1).2.2 a ha d (List.mem_singleton_self d)
  have hfree : ∀ i ∈ alive, relB ov old i d = true → i ∉ links.map (·.1) := by
    intro i hi hr hrow
    obtain ⟨l, hlm, rfl⟩ := List.mem_map.mp hrow
    obtain ⟨hd0, -, hr0⟩ := (hl.2.1 l.1 l.2).mp hlm
    exact Bool.false_ne_true (((hd _ hd0).2 _ hi hr0).symm.trans hr)
  refine ⟨?_, hfree⟩
  rw [hits_extend ov t old rest hal hl.1 fun l hlm => (hd _ ((hl.2.1 l.1 l.2).mp hlm).1).1]
  exact List.filter_eq_self.mpr fun i hi =>
    decide_eq_true (hfree i (List.mem_of_mem_filter hi) (List.mem_filter.mp hi).2)

theorem oneLinks_link (t : τ) (hal : ∀ i ∈ alive, i < old.length)
    (h : OneToOne ov alive old (ds ++ [d])) (hl : OneLinks ov alive old ds links rest) {i : Nat}
    (hi : hits ov alive (extend t old links rest) d = [i]) :
    OneLinks ov alive old (ds ++ [d]) (links ++ [(i, d)]) rest := by
  obtain ⟨hH, hfree⟩ := oneLinks_hits t hal h hl
  -- `i` is the one alive track related to `d`
  have hiH : ∀ j, j ∈ alive ∧ relB ov old j d = true ↔ j = i := fun j => by
    have := List.mem_filter (p := fun i => relB ov old i d) (x := j) (as := alive)
    rw [← hH, hi, List.mem_singleton] at this
    exact this.symm
  obtain ⟨hia, hir⟩ := (hiH i).mpr rfl
  obtain ⟨hnd, hl, hrest⟩ := hl
  refine ⟨?_, fun j d' => ?_, ?_⟩
  · rw [List.map_append]
    exact List.nodup_append_comm.mp (List.nodup_cons.mpr ⟨hfree i hia hir, hnd⟩)
  · simp only [List.mem_append, List.mem_singleton, Prod.mk.injEq, hl, or_and_right]
    refine or_congr_right ⟨fun ⟨hj, hd'⟩ => ?_, fun ⟨hd', hj⟩ => ?_⟩
    · subst hj hd'
      exact ⟨rfl, hia, hir⟩
    · subst hd'
      exact ⟨(hiH j).mp hj, rfl⟩
  · have : alive.any (fun i => relB ov old i d) = true := List.any_eq_true.mpr ⟨i, hia, hir⟩
    simp [unmatched, List.filter_append, hrest, this]

theorem oneLinks_fresh (t : τ) (hal : ∀ i ∈ alive, i < old.length) (hnda : alive.Nodup)
    (h : OneToOne ov alive old (ds ++ [d])) (hl : OneLinks ov alive old ds links rest)
    (hne : ∀ i, hits ov alive (extend t old links rest) d ≠ [i]) :
    OneLinks ov alive old (ds ++ [d]) links (rest ++ [d]) := by
  rw [(oneLinks_hits t hal h hl).1] at hne
  -- alive tracks related to `d` would be hit, are distinct and equal to one another: there is none
  have hnone : ∀ j ∈ alive, relB ov old j d = false := by
    intro j hj
    by_contra hr
    have hjH : j ∈ alive.filter fun i => relB ov old i d :=
      List.mem_filter.mpr ⟨hj, by simpa using hr⟩
    rcases ((hnda.filter _).ne_singleton_iff j).mp (hne j) with h0 | ⟨k, hk, hkj⟩
    · cases h0 ▸ hjH
    · exact hkj (h.2 d (by simp) k (List.mem_filter.mp hk).1 j hj (List.mem_filter.mp hk).2
        (List.mem_filter.mp hjH).2)
  obtain ⟨hnd, hl, hrest⟩ := hl
  refine ⟨hnd, fun j d' => ?_, ?_⟩
  · simp only [List.mem_append, List.mem_singleton, hl, or_and_right]
    refine (or_iff_left fun ⟨hd', hj, hr⟩ => ?_).symm
    exact Bool.false_ne_true ((hnone j hj).symm.trans (hd' ▸ hr))
  · have : alive.any (fun i => relB ov old i d) = false :=
      List.any_eq_false.mpr fun j hj => by simp [hnone j hj]
    simp [unmatched, List.filter_append, hrest, this]

end

variable [DecidableEq τ] {α : Type} [LinearOrder α]

/-- the hit list is exactly the alive tracks whose CURRENT last droplet overlaps `d` -/
theorem mem_hits (ov : Nat → Nat → Bool) (alive : List Nat) (tracks : List (Track τ)) (d i : Nat) :
    i ∈ hits ov alive tracks d ↔ i ∈ alive ∧ ∃ a, lastOf tracks i = some a ∧ ov a d = true := by
  rw [hits, List.mem_filter]
  cases lastOf tracks i <;> simp

/-- **A droplet overlapping no alive track starts a new track**, and so does one that overlaps
several; a droplet overlapping exactly one alive track continues that track. -/
theorem overlap_rule (ov : Nat → Nat → Bool) (alive : List Nat) (t : τ) (tracks : List (Track τ)) (d : Nat) :
    (hits ov alive tracks d = [] → procDroplet ov alive t tracks d = tracks ++ [[(d, t)]]) ∧
    (2 ≤ (hits ov alive tracks d).length → procDroplet ov alive t tracks d = tracks ++ [[(d, t)]]) ∧
    (∀ i, hits ov alive tracks d = [i] →
        procDroplet ov alive t tracks d = tracks.modify i (· ++ [(d, t)])) := by
  refine ⟨fun h => ?_, fun h => ?_, fun i h => ?_⟩
  · rw [procDroplet, h]
  · unfold procDroplet
    split
    · next i hi => simp [hi] at h
    · rfl
  · rw [procDroplet, h]

theorem procDroplet_linked (ov : Nat → Nat → Bool) (alive : List Nat) (t : τ) (tracks : List (Track τ))
    (d : Nat) (h : ∀ tr ∈ tracks, Linked ov tr) :
    ∀ tr ∈ procDroplet ov alive t tracks d, Linked ov tr := by
  intro tr htr
  unfold procDroplet at htr
  split at htr
  · next i hi =>
    rcases mem_modify _ tracks i tr htr with h' | ⟨hlt, rfl⟩
    · exact h tr h'
    · -- the one track hit ends with a droplet that overlaps `d`
      obtain ⟨-, a, ha, hov⟩ := (mem_hits ov alive tracks d i).mp (hi ▸ List.mem_singleton_self i)
      refine linked_snoc ov _ d t (h _ (List.getElem_mem _)) fun a' ha' => ?_
      cases (lastOf_eq hlt ▸ ha).symm.trans ha'
      exact hov
  · rcases List.mem_append.mp htr with h' | h'
    · exact h tr h'
    · cases List.mem_singleton.mp h'
      trivial

/-- **With overlap matching, consecutive droplets of a track always overlap** — for every time
course and every overlap table. -/
theorem overlap_links_overlap (ov : Nat → Nat → Bool) (frames : List (τ × List Nat))
    (trs : List (Track τ)) (h : trackAll (α := α) (.overlap ov) frames = .ok trs) :
    ∀ tr ∈ trs, Linked ov tr := by
  refine (trackAll_rec (I := fun _ st => ∀ tr ∈ st.1, Linked ov tr) nofun ?_ h).elim fun _ h => h
  intro _ st fr st' hI h
  cases h
  show ∀ tr ∈ stepOverlap ov st.1 st.2 fr.1 fr.2, Linked ov tr
  induction fr.2 using List.reverseRecOn with
  | nil => exact hI
  | append_singleton ds d ih =>
    rw [stepOverlap_snoc]
    exact procDroplet_linked _ _ _ _ d ih

/-- **Whenever the overlap relation between the tracks that ended in the previous frame and the
droplets of the current frame is one-to-one (and the droplets of the frame do not overlap one
another), the tracks follow exactly that relation**: track `i` is extended by `d` iff they overlap,
and exactly the droplets without partner start new tracks, in order. -/
theorem overlap_one_to_one (ov : Nat → Nat → Bool) (old : List (Track τ)) (tlast : Option τ) (t : τ)
    (ds : List Nat) (hnd : ds.Nodup)
    (hno : ∀ d ∈ ds, ∀ d' ∈ ds, d ≠ d' → ov d d' = false)
    (hfun : ∀ d ∈ ds, ∀ i ∈ aliveIdx old tlast, ∀ j ∈ aliveIdx old tlast,
      relB ov old i d = true → relB ov old j d = true → i = j)
    (hinj : ∀ i ∈ aliveIdx old tlast, ∀ d ∈ ds, ∀ d' ∈ ds,
      relB ov old i d = true → relB ov old i d' = true → d = d') :
    OneInv ov t (aliveIdx old tlast) old ds (stepOverlap ov old tlast t ds) := by
  have hal : ∀ i ∈ aliveIdx old tlast, i < old.length := fun i hi => (mem_aliveIdx.mp hi).1
  have h11 : OneToOne ov (aliveIdx old tlast) old ds :=
    ⟨hnd.imp_of_mem fun ha hb hne => ⟨hno _ ha _ hb hne, fun i hi hr =>
      Bool.eq_false_iff.mpr fun hr' => hne (hinj i hi _ ha _ hb hr hr')⟩, hfun⟩
  obtain ⟨links, rest, heq, hP⟩ := stepOverlap_rec ov old tlast t (P := fun ds links rest =>
    OneToOne ov (aliveIdx old tlast) old ds → OneLinks ov (aliveIdx old tlast) old ds links rest)
    (fun _ => ⟨.nil, by simp, rfl⟩)
    (fun ds links rest d i ih hi h => oneLinks_link t hal h (ih (oneToOne_init h)) hi)
    (fun ds links rest d ih hne h =>
      oneLinks_fresh t hal (aliveIdx_nodup old tlast) h (ih (oneToOne_init h)) hne) ds
  exact heq ▸ oneLinks_oneInv t (hP h11)

theorem within_iff (maxd : Option α) (x : α) :
    within maxd x = true ↔ ∀ m, maxd = some m → x ≤ m := by
  cases maxd <;> simp [within]

/-- **Linked droplets are never farther apart than the cut-off** -/
theorem distance_links_within_cutoff (D : Nat → Nat → α) (maxd : Option α) (fuel : Nat) (rows cols : List Nat) :
    ∀ l ∈ (greedy D maxd fuel rows cols).1, ∀ m, maxd = some m → D l.1 l.2 ≤ m := by
  refine greedy_rec (D := D) (maxd := maxd) (P := fun _ _ _ out => ∀ l ∈ out.1, ∀ m, maxd = some m → D l.1 l.2 ≤ m)
    (fun _ _ _ _ => nofun) ?_ fuel rows cols
  intro fuel rows cols i j out hm _ _ ih l hl
  rcases List.mem_cons.mp hl with rfl | hl
  · exact (within_iff maxd _).mp (mem_cands.mp hm).2.2
  · exact ih l hl

/-- **Maximality: after the matching no unmatched track (row) and unmatched droplet (column) are
within the cut-off** — no track ends in a frame in which a new track starts within the cut-off.
`cols.length < fuel` holds of the fuel `ds.length + 1` with which `stepDistance` runs the code's `while True` loop. -/
theorem distance_maximal (D : Nat → Nat → α) (maxd : Option α) (fuel : Nat) (rows cols : List Nat)
    (hf : cols.length < fuel) (hr : rows.Nodup) :
    ∀ i ∈ rows, i ∉ (greedy D maxd fuel rows cols).1.map (·.1) →
      ∀ j ∈ (greedy D maxd fuel rows cols).2, within maxd (D i j) = false := by
  refine greedy_rec (D := D) (maxd := maxd) (P := fun fuel rows cols out => cols.length < fuel → rows.Nodup →
    ∀ i ∈ rows, i ∉ out.1.map (·.1) → ∀ j ∈ out.2, within maxd (D i j) = false) ?_ ?_ fuel rows cols hf hr
  · intro fuel rows cols he hf _ i hi _ j hj
    by_contra hw
    cases he hf ▸ mem_cands.mpr ⟨hi, hj, by simpa using hw⟩
  · intro fuel rows cols i0 j0 out _ _ hfuel ih hf hr i hi hnot
    rw [List.map_cons, List.mem_cons, not_or] at hnot
    exact ih (hfuel hf) (hr.erase i0) i ((List.Nodup.mem_erase_iff hr).mpr ⟨hnot.1, hi⟩) hnot.2

/-- specification of "repeatedly join the closest remaining pair" (independent of the loop) -/
inductive IsGreedy (D : Nat → Nat → α) (maxd : Option α) : List Nat → List Nat → List (Nat × Nat) → Prop
  | done (rows cols) : cands D maxd rows cols = [] → IsGreedy D maxd rows cols []
  | step (rows cols) (i j) (links) :
      (i, j) ∈ cands D maxd rows cols →
      (∀ q ∈ cands D maxd rows cols, D i j ≤ D q.1 q.2) →
      IsGreedy D maxd (rows.erase i) (cols.erase j) links →
      IsGreedy D maxd rows cols ((i, j) :: links)

/-- the loop realises the specification -/
theorem distance_greedy (D : Nat → Nat → α) (maxd : Option α) (fuel : Nat) (rows cols : List Nat)
    (hf : cols.length < fuel) : IsGreedy D maxd rows cols (greedy D maxd fuel rows cols).1 := by
  refine greedy_rec (P := fun fuel rows cols out => cols.length < fuel → IsGreedy D maxd rows cols out.1)
    (fun _ _ _ he hf => .done _ _ (he hf)) ?_ fuel rows cols hf
  intro fuel rows cols i j out hm hmin hfuel ih hf
  exact .step _ _ i j _ hm hmin (ih (hfuel hf))

theorem cands_erase_sub (D : Nat → Nat → α) (maxd : Option α) (rows cols : List Nat) (i j : Nat) :
    ∀ q ∈ cands D maxd (rows.erase i) (cols.erase j), q ∈ cands D maxd rows cols := by
  intro q hq
  obtain ⟨a, b⟩ := q
  rw [mem_cands] at hq ⊢
  exact ⟨List.mem_of_mem_erase hq.1, List.mem_of_mem_erase hq.2.1, hq.2.2⟩

/-- **When all distances are distinct, the links are THE result of repeatedly joining the closest
remaining pair**: the specification has at most one solution; that the loop computes one is `distance_greedy`. -/
theorem distance_greedy_unique (D : Nat → Nat → α) (maxd : Option α) (rows cols : List Nat)
    (hinj : ∀ p ∈ cands D maxd rows cols, ∀ q ∈ cands D maxd rows cols, D p.1 p.2 = D q.1 q.2 → p = q)
    (l1 l2 : List (Nat × Nat)) (h1 : IsGreedy D maxd rows cols l1) (h2 : IsGreedy D maxd rows cols l2) :
    l1 = l2 := by
  induction h1 generalizing l2 with
  | done rows cols he =>
    cases h2 with
    | done => rfl
    | step _ _ i j links hm _ _ => rw [he] at hm; cases hm
  | step rows cols i j links hm hmin _ ih =>
    cases h2 with
    | done _ _ he => rw [he] at hm; cases hm
    | step _ _ i' j' links' hm' hmin' hrest' =>
      have hpq : (i, j) = (i', j') :=
        hinj _ hm _ hm' (le_antisymm (hmin _ hm') (hmin' _ hm))
      cases hpq
      have := ih (fun p hp q hq => hinj p (cands_erase_sub D maxd rows cols i j p hp) q
        (cands_erase_sub D maxd rows cols i j q hq)) links' hrest'
      rw [this]

/-- non-vacuity: two tracks, two droplets, crossing candidates; the closest pair wins -/
example :
    (greedy (α := ℚ) (fun i j => if i = 0 ∧ j = 10 then 3 else if i = 0 ∧ j = 11 then 1
        else if i = 1 ∧ j = 10 then 2 else 4) (some 3) 3 [0, 1] [10, 11]).1 = [(0, 11), (1, 10)] := by
  decide +kernel

end DV.C07
