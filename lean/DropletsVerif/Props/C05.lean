/-
  C05 — Refined localisation recovers position, radius and interface width.
  The recovery claim itself (relative error below 1e-4) is a statement about the convergence of an
  iterative floating-point optimiser and is NOT a theorem; it is validated by differential runs
  (level `other`).  What is proved here are the logical conditions recovery depends on, each of which
  a code change can break:

  * the ground truth is a ZERO of the residual that `refine_droplet` minimises, hence a global
    minimiser of cost 0 (`truth_zero_residual`), because the residual (regenerated from
    `_image_deviation`) and the renderer/scaling (regenerated from `get_phase_field`) are the same
    affine function of the same profile; the bounds it has to respect are C04's `bounds_spec`;
  * the starting point is feasible (C04 `refinePlan_x0_feasible`) and accurate to grid resolution
    (`initial_estimate_within_resolution`, from C01), and detection depends on the threshold rule only
    through the binary image (C18).
-/
import DropletsVerif.Lemmas.RealInst
import DropletsVerif.Generated.Residual
import DropletsVerif.Generated.Profile
import DropletsVerif.Props.C04
import DropletsVerif.Props.C01.Radius
import DropletsVerif.Props.C03
import Mathlib.Tactic

namespace DV.C05
open DV.Gen

/-- with fitted levels `_image_deviation` evaluates the same expression, at the fitted `vmin`, `vrng` -/
theorem residual_fitted_eq : @residual_fitted_levels ℝ _ = residual_fixed_levels := rfl

/-- **The ground truth has zero residual** (supplied and fitted intensity levels): an image
rendered as `vmin + (vmax − vmin)·profile` is reproduced exactly by the fit model at the true
droplet parameters with `vrng = vmax − vmin` — in whatever unit the deviations are measured. -/
theorem truth_zero_residual (vmin vmax profile scale : ℝ) :
    residual_fixed_levels vmin (vmax - vmin) profile (scale_field vmin vmax profile) scale = 0 ∧
    residual_fitted_levels vmin (vmax - vmin) profile (scale_field vmin vmax profile) scale = 0 := by
  simp [residual_fixed_levels, residual_fitted_levels, scale_field]

/-- the unit in which `refine_droplet` measures deviations (regenerated `residual_scale`) is the absolute
intensity range, 1 for a constant image: always positive, so dividing by it is harmless -/
theorem residual_scale_spec (vrng : ℝ) :
    residual_scale vrng = (if vrng = 0 then 1 else |vrng|) ∧ 0 < residual_scale vrng := by
  unfold residual_scale
  by_cases h0 : vrng = 0
  · subst h0; simp
  · rcases lt_or_gt_of_ne h0 with h | h
    · simp [h0, h, abs_of_neg h]
    · simp [h0, not_lt.mpr h.le, abs_of_pos h, h]

/-- the residual is zero ONLY where model and image agree: a non-zero residual at the truth would
mean the renderer and the fit model differ -/
theorem residual_eq_zero_iff (vmin vrng render data : ℝ) :
    residual_fixed_levels vmin vrng render data (residual_scale vrng) = 0 ↔ data = vmin + vrng * render := by
  show (vmin + vrng * render - data) / residual_scale vrng = 0 ↔ _
  rw [div_eq_zero_iff, or_iff_left (residual_scale_spec vrng).2.ne', sub_eq_zero, eq_comm]

theorem residual_affine (a b vmin vrng render data s : ℝ) :
    residual_fixed_levels (a * vmin + b) (a * vrng) render (a * data + b) s
      = a * residual_fixed_levels vmin vrng render data s := by
  simp only [residual_fixed_levels]; ring

/-- **What the solver sees does not depend on the intensity scale of the image** (defect D23, repaired): mapping the
image and the intensity levels by the same affine map `x ↦ a·x + b`, `a > 0`, leaves every residual unchanged —
for supplied levels (`vmin, vrng ↦ a·vmin + b, a·vrng`) and for fitted levels (where the fitted parameters are mapped
likewise and the unit is fixed from the initial range `vrng0`).  The solver therefore takes the same steps and stops at
the same point whatever the contrast and offset of the image; without the division by `residual_scale` the residual
would scale with `a` and the ABSOLUTE gradient tolerance of the stopping rule would end the fit early on low-contrast images. -/
theorem residual_intensity_invariant (a b : ℝ) (ha : 0 < a) (vmin vrng vrng0 render data : ℝ) (h0 : vrng0 ≠ 0) :
    residual_fixed_levels (a * vmin + b) (a * vrng) render (a * data + b) (residual_scale (a * vrng0))
      = residual_fixed_levels vmin vrng render data (residual_scale vrng0) ∧
    residual_fitted_levels (a * vmin + b) (a * vrng) render (a * data + b) (residual_scale (a * vrng0))
      = residual_fitted_levels vmin vrng render data (residual_scale vrng0) := by
  have h1 : residual_scale (a * vrng0) = a * residual_scale vrng0 := by
    rw [(residual_scale_spec _).1, (residual_scale_spec _).1]
    simp [h0, ha.ne', abs_mul, abs_of_pos ha]
  rw [residual_fitted_eq, and_self, residual_affine, h1]
  show a * (_ / (a * _)) = _ / _
  rw [← mul_div_assoc, mul_div_mul_left _ _ ha.ne']

/-- what the division by `residual_scale` prevents (D23): WITHOUT the unit (scale 1) the residual of the mapped image is `a` times
the residual of the original, so an absolute stopping tolerance is met `a` times (its gradient `a²` times) sooner -/
theorem residual_unscaled_scales (a b vmin vrng render data : ℝ) :
    residual_fixed_levels (a * vmin + b) (a * vrng) render (a * data + b) 1
      = a * residual_fixed_levels vmin vrng render data 1 :=
  residual_affine a b vmin vrng render data 1

/-- with the true levels, the residual vanishes exactly when the rendered profile values agree
(for `vmin ≠ vmax`): the minimiser of cost 0 reproduces the image cell by cell -/
theorem zero_residual_iff_same_profile (vmin vmax p p' : ℝ) (h : vmin ≠ vmax) :
    residual_fixed_levels vmin (vmax - vmin) p' (scale_field vmin vmax p) (residual_scale (vmax - vmin)) = 0 ↔ p' = p := by
  rw [residual_eq_zero_iff, C03.scale_eq, add_right_inj, mul_right_inj' (sub_ne_zero.mpr h.symm), eq_comm]

/-- tanh is injective: equal values of the smooth profile `½ + ½ tanh((R − d)/w)` at a cell mean equal `(R − d)/w` there -/
theorem profile_injective (x y : ℝ) (h : Real.tanh x = Real.tanh y) : x = y :=
  C03.tanh_strictMono.injective h

/-- two points of the line `d ↦ (R − d) / w` determine `R` and `w` -/
theorem line_unique {R w R' w' d1 d2 : ℝ} (hw' : w' ≠ 0) (hd : d1 ≠ d2)
    (e1 : (R' - d1) / w' = (R - d1) / w) (e2 : (R' - d2) / w' = (R - d2) / w) : R' = R ∧ w' = w := by
  have h := congrArg₂ (· - ·) e1 e2
  simp only [div_eq_mul_inv, ← sub_mul, sub_sub_sub_cancel_left] at h
  obtain rfl : w' = w := inv_inj.mp (mul_left_cancel₀ (sub_ne_zero.mpr hd.symm) h)
  exact ⟨sub_left_injective ((div_left_inj' hw').mp e1), rfl⟩

/-- **On radially symmetric grids the ground truth is the ONLY zero of the residual** (identifiability of radius and interface width): if the fit
model with parameters `(R', w')` reproduces the image of a droplet `(R, w)` — zero residual, regenerated `_image_deviation` over the regenerated
renderer — at two support points at different distances from the (constrained) centre, then `R' = R` and `w' = w`.  Together with
`truth_zero_residual`: with the centre and the intensity levels held at their true values, the truth is the only pair `(R', w')` with `w' > 0`
of cost 0, on polar and spherical grids and, for the radius/width pair, on every other grid. -/
theorem radial_truth_unique_zero (vmin vmax R w R' w' d1 d2 : ℝ) (hv : vmin ≠ vmax) (hw : 0 < w) (hw' : 0 < w') (hd : d1 ≠ d2)
    (h1 : residual_fixed_levels vmin (vmax - vmin) (diffuse_smooth R' w' d1) (scale_field vmin vmax (diffuse_smooth R w d1))
      (residual_scale (vmax - vmin)) = 0)
    (h2 : residual_fixed_levels vmin (vmax - vmin) (diffuse_smooth R' w' d2) (scale_field vmin vmax (diffuse_smooth R w d2))
      (residual_scale (vmax - vmin)) = 0) :
    R' = R ∧ w' = w := by
  have p1 := (zero_residual_iff_same_profile vmin vmax _ _ hv).mp h1
  have p2 := (zero_residual_iff_same_profile vmin vmax _ _ hv).mp h2
  rw [C03.smooth_eq, C03.smooth_eq, add_right_inj, mul_right_inj' one_half_pos.ne'] at p1 p2
  exact line_unique hw'.ne' hd (profile_injective _ _ p1) (profile_injective _ _ p2)

/-- non-vacuity: two support points at distances 1 and 2 -/
example : (2 : ℝ) = 2 ∧ (1 : ℝ) = 1 :=
  radial_truth_unique_zero 0 1 2 1 2 1 1 2 (by norm_num) (by norm_num) (by norm_num) (by norm_num)
    ((zero_residual_iff_same_profile 0 1 _ _ (by norm_num)).mpr rfl) ((zero_residual_iff_same_profile 0 1 _ _ (by norm_num)).mpr rfl)

open DV.Merge DV.LabelInv DV.Render DV.BallConn DV.C01

/-- **The initial estimate that refinement starts from is accurate to grid resolution.**  For every droplet of a well-separated,
resolved emulsion on a Cartesian grid in 1–3 dimensions (model pipeline: rendering → labelling → periodic merging), the located
position lies within HALF A CELL of the true centre along every axis (modulo whole periods on periodic axes) and the located
radius — `radius_from_volume` (regenerated) of the cluster's volume — within half a cell diagonal `ρ` of the true radius.
That the trust-region iteration converges from there to the truth, a zero of the residual (`truth_zero_residual`), is the
numerical part of C05. -/
theorem initial_estimate_within_resolution (axes : List Axis) (balls : List (List ℚ × ℚ)) (hwf : ∀ b ∈ balls, GridWF axes b.1)
    (hd3 : axes.length = 1 ∨ axes.length = 2 ∨ axes.length = 3) (ρ : ℚ) (hρ : 0 ≤ ρ)
    (hdiag : ∑ a ∈ Finset.range axes.length, ((axes.getD a default).dx / 2) ^ 2 ≤ ρ ^ 2)
    (hmax : ℚ) (hh : ∀ a ∈ axes, a.dx ≤ hmax) (h0 : 0 ≤ hmax)
    (hdist : ∀ b1 ∈ balls, ∀ b2 ∈ balls, b1 ≠ b2 → (b1.2 + b2.2 + hmax) ^ 2 ≤ cdist2 axes b1.1 b2.1)
    (hres : ∀ b ∈ balls, FullyResolved axes b.1 b.2)
    (b : List ℚ × ℚ) (hb : b ∈ balls) (c0 : ℕ) (hc0 : ballMask axes b.1 b.2 c0 = true) :
    let mask := emulsionMask axes balls
    let L := labelFn (shapeOf axes) mask
    let cells := List.range (numCells (shapeOf axes))
    let st := mergeLoop (fun a => (shapeOf axes).getD a 1) L (initSt (coordOf (shapeOf axes)) L cells)
      (edgesOf (shapeOf axes) (perOf axes))
    let cellVol : ℝ := ∏ a ∈ Finset.range axes.length, (((axes.getD a default).dx : ℚ) : ℝ)
    (∃ m : ℕ → ℤ, (∀ a, a < axes.length → (axes.getD a default).periodic = false → m a = 0) ∧ ∀ a, a < axes.length →
      |(axes.getD a default).lo + (axes.getD a default).dx * st.pos (st.lab c0) a
        - (m a : ℚ) * (axes.getD a default).length - b.1.getD a 0| < (axes.getD a default).dx / 2) ∧
    ∃ r : ℝ, Gen.radius_from_volume (((st.vol (st.lab c0) : ℚ) : ℝ) * cellVol) axes.length = .ok r ∧ |r - (b.2 : ℝ)| ≤ ρ := by
  intro mask L cells st cellVol
  have hd : 0 < axes.length := by omega
  obtain ⟨_, hv, hpos⟩ := C01_emulsion_model axes balls hwf hd hmax hh h0 hdist hres b hb c0 hc0
  refine ⟨hpos, ?_⟩
  obtain ⟨r, hr, hrw⟩ := located_radius_within axes b.1 (hwf b hb) b.2 (hres b hb) ρ hρ hdiag hd3
  refine ⟨r, ?_, hrw⟩
  show Gen.radius_from_volume (((st.vol (st.lab c0) : ℚ) : ℝ) * cellVol) axes.length = .ok r
  rw [hv]; push_cast; exact hr

end DV.C05
