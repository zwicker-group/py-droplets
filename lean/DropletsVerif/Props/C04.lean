/-
  C04 — Refinement never worsens the fit and respects bounds, symmetry and the box.
  Theorems about Model/Refine.lean: everything `refine_droplet` itself contributes (promotion of the
  candidate, packing of the free parameters, bounds, initial point, scattering the answer back, the
  wrap of the position, the number of dilation steps of the fitted region).  The decrease of the
  cost and staying inside the bounds are properties of scipy's trust-region solver; they enter as
  the contract `SolverOK`, which the correspondence check monitors on every real call.
-/
import DropletsVerif.Model.Refine
import Mathlib.Tactic

namespace DV.C04
open DV.Refine

section
variable {β : Type}

/-! ### packing and unpacking of the free parameters

`select` and `scatter` are defined by overlapping patterns; their equations, once, as rewrite rules. -/

section equations
variable (m : List Bool) (f x : β) (fs xs : List β)

@[simp] theorem select_nil_mask : select [] xs = [] := rfl
@[simp] theorem select_nil : select m ([] : List β) = [] := by
  rcases m with _ | ⟨_ | _, _⟩ <;> rfl
@[simp] theorem select_true : select (true :: m) (x :: xs) = x :: select m xs := rfl
@[simp] theorem select_false : select (false :: m) (x :: xs) = select m xs := rfl

@[simp] theorem scatter_nil_mask : scatter [] fs xs = fs := rfl
@[simp] theorem scatter_nil : scatter m [] xs = [] := by
  rcases m with _ | ⟨_ | _, _⟩ <;> cases xs <;> rfl
@[simp] theorem scatter_false : scatter (false :: m) (f :: fs) xs = f :: scatter m fs xs := rfl
@[simp] theorem scatter_true_cons : scatter (true :: m) (f :: fs) (x :: xs) = x :: scatter m fs xs := rfl
@[simp] theorem scatter_true_nil : scatter (true :: m) (f :: fs) [] = f :: scatter m fs [] := rfl

end equations

/-- **If the solver returns its starting point the record is unchanged** (the image was rendered
from the candidate: zero residual, nothing to improve) — the step on `scatter`/`select`, not lifted to `finish` -/
theorem scatter_select (m : List Bool) (flat : List β) : scatter m flat (select m flat) = flat := by
  induction m generalizing flat with
  | nil => simp
  | cons b m ih => cases flat <;> cases b <;> simp [ih]

theorem scatter_length (m : List Bool) (flat x : List β) : (scatter m flat x).length = flat.length := by
  fun_induction scatter m flat x <;> simp [*]

theorem scatter_fixed (m : List Bool) (flat x : List β) (i : Nat) (hi : m[i]? = some false) :
    (scatter m flat x)[i]? = flat[i]? := by
  induction m generalizing flat x i with
  | nil => simp
  | cons b m ih =>
    cases flat with
    | nil => simp
    | cons f fs =>
      cases i with
      | zero =>
        obtain rfl : b = false := by simpa using hi
        simp
      | succ i => cases b <;> cases x <;> exact ih fs _ i hi

/-- **Coordinates fixed by the grid's symmetry are left untouched**, whatever the solver returns -/
theorem refine_constrained_untouched (L : Layout) (constraints : List Nat) (flat x : List β) (adjust : Bool)
    (i : Nat) (hc : i ∈ constraints) (hi : i < L.len) :
    (finish L constraints flat x adjust)[i]? = flat[i]? := by
  unfold finish
  apply scatter_fixed
  simp [freeMask, hi, hc]

/-- the written entries are exactly the solver's answer, in order -/
theorem select_scatter (m : List Bool) (flat x : List β) (hlen : m.length = flat.length)
    (hx : x.length = (m.filter id).length) : select m (scatter m flat x) = x := by
  induction m generalizing flat x with
  | nil => simpa using hx
  | cons b m ih =>
    cases flat with
    | nil => simp at hlen
    | cons f fs =>
      have ih' := fun x hx => ih fs x (by simpa using hlen) hx
      cases b with
      | false => simpa using ih' x (by simpa using hx)
      | true =>
        cases x with
        | nil => simp at hx
        | cons y ys => simpa using ih' ys (by simpa using hx)

/-! ### bounds -/

section ordered
variable {K : Type} [Field K] [LinearOrder K] [IsStrictOrderedRing K]

/-- `lb ≤ x ≤ ub` componentwise (`none` = unbounded) -/
def Within (lb ub : List (Option K)) (x : List K) : Prop :=
  List.Forall₂ (fun l v => ∀ b, l = some b → b ≤ v) lb x ∧ List.Forall₂ (fun u v => ∀ b, u = some b → v ≤ b) ub x

/-- a flat record is valid: radius ≥ 0, width ≥ 0, amplitudes in [−1, 1] -/
def ValidFlat (L : Layout) (flat : List K) : Prop :=
  flat.length = L.len ∧ Within (Refine.lowerBounds L) (Refine.upperBounds L) flat

theorem forall2_select {γ δ : Type} {R : γ → δ → Prop} {as : List γ} {bs : List δ} (h : List.Forall₂ R as bs)
    (m : List Bool) : List.Forall₂ R (select m as) (select m bs) := by
  induction h generalizing m with
  | nil => simp
  | cons hh _ ih =>
    rcases m with _ | ⟨_ | _, m⟩
    · simp
    · simpa using ih m
    · simpa using List.Forall₂.cons hh (ih m)

theorem within_select (m : List Bool) {lb ub : List (Option K)} {x : List K} (h : Within lb ub x) :
    Within (select m lb) (select m ub) (select m x) :=
  ⟨forall2_select h.1 m, forall2_select h.2 m⟩

theorem within_append {lb ub lb' ub' : List (Option K)} {x x' : List K}
    (h : Within lb ub x) (h' : Within lb' ub' x') : Within (lb ++ lb') (ub ++ ub') (x ++ x') :=
  ⟨List.rel_append h.1 h'.1, List.rel_append h.2 h'.2⟩

/-- **The starting point handed to the solver is feasible** for every valid candidate and every
pair of intensity levels with `vmin ≤ vmax` — with or without fitted levels. -/
theorem refinePlan_x0_feasible (L : Layout) (constraints : List Nat) (flat : List K) (vmin vmax : K)
    (adjust : Bool) (hv : ValidFlat L flat) (hlev : vmin ≤ vmax) :
    Within (plan L constraints flat vmin vmax adjust).lb (plan L constraints flat vmin vmax adjust).ub
      (plan L constraints flat vmin vmax adjust).x0 := by
  have hbase := within_select (freeMask L constraints) hv.2
  unfold plan
  cases adjust
  · exact hbase
  · refine within_append hbase ?_
    have h0 : 0 ≤ vmax - vmin := sub_nonneg.mpr hlev
    simp only [Within, List.forall₂_cons, List.forall₂_nil_right_iff, Option.some.injEq, forall_eq', and_true]
    exact ⟨⟨sub_le_self _ h0, h0⟩, hlev, le_mul_of_one_le_left h0 (by norm_num)⟩

/-- the arithmetic of finding D11, not a statement about `plan`: started at `vmax` instead of `vmax − vmin`,
the range parameter is 6 for `vmin = 5`, `vmax = 6`, above its upper bound `3 (vmax − vmin) = 3` -/
theorem old_x0_infeasible_witness : ¬ ((6 : ℚ) ≤ 3 * (6 - 5)) := by norm_num

/-- entries of a list of the shape `A ++ [b, c] ++ C`: the flat record and both bound vectors have it -/
theorem getElem?_mid {γ : Type} (A C : List γ) (b c : γ) :
    let l := A ++ [b, c] ++ C
    l[A.length]? = some b ∧ l[A.length + 1]? = some c ∧
      ∀ i, (i < A.length → l[i]? = A[i]?) ∧ l[A.length + 2 + i]? = C[i]? := by
  intro l
  have hl : (A ++ [b, c]).length = A.length + 2 := by simp
  refine ⟨?_, ?_, fun i => ⟨fun h => ?_, ?_⟩⟩
  · rw [List.getElem?_append_left (by omega), List.getElem?_append_right le_rfl, Nat.sub_self]; rfl
  · rw [List.getElem?_append_left (by omega), List.getElem?_append_right (by omega), Nat.add_sub_cancel_left]; rfl
  · rw [List.getElem?_append_left (by omega), List.getElem?_append_left h]
  · rw [List.getElem?_append_right (by omega), hl, Nat.add_sub_cancel_left]

/-- the bounds handed to the solver say: radius ≥ 0, width ≥ 0, amplitudes in [−1, 1], positions free -/
theorem bounds_spec (L : Layout) (i : Nat) :
    (i < L.dim → (Refine.lowerBounds (α := K) L)[i]? = some none ∧ (Refine.upperBounds (α := K) L)[i]? = some none) ∧
    ((Refine.lowerBounds (α := K) L)[L.dim]? = some (some 0) ∧ (Refine.lowerBounds (α := K) L)[L.dim + 1]? = some (some 0)) ∧
    (i < L.modes → (Refine.lowerBounds (α := K) L)[L.dim + 2 + i]? = some (some (-1)) ∧
                    (Refine.upperBounds (α := K) L)[L.dim + 2 + i]? = some (some 1)) := by
  have hl := getElem?_mid (.replicate L.dim none) (.replicate L.modes (some (-1))) (some (0 : K)) (some 0)
  have hu := (getElem?_mid (.replicate L.dim none) (.replicate L.modes (some (1 : K))) none none).2.2 i
  simp only [List.length_replicate, List.getElem?_replicate] at hl hu
  exact ⟨fun hi => ⟨((hl.2.2 i).1 hi).trans (if_pos hi), (hu.1 hi).trans (if_pos hi)⟩, ⟨hl.1, hl.2.1⟩,
    fun hi => ⟨(hl.2.2 i).2.trans (if_pos hi), hu.2.trans (if_pos hi)⟩⟩

/-- contract of the solver: started inside the bounds it returns a point inside the bounds whose
cost is not larger -/
structure SolverOK (cost : List K → K) (lb ub : List (Option K)) (x0 x : List K) : Prop where
  feasible : Within lb ub x
  decrease : cost x ≤ cost x0

/-- **Under the solver contract the cost of the result is not larger than the candidate's and the
answer is inside the bounds** (stated for completeness: it is the contract itself, applied to the
feasible starting point the code provides) -/
theorem refine_cost_monotone (L : Layout) (constraints : List Nat) (flat : List K) (vmin vmax : K) (adjust : Bool)
    (cost : List K → K) (x : List K)
    (h : SolverOK cost (plan L constraints flat vmin vmax adjust).lb (plan L constraints flat vmin vmax adjust).ub
      (plan L constraints flat vmin vmax adjust).x0 x) :
    cost x ≤ cost (plan L constraints flat vmin vmax adjust).x0 ∧
    Within (plan L constraints flat vmin vmax adjust).lb (plan L constraints flat vmin vmax adjust).ub x :=
  ⟨h.decrease, h.feasible⟩

/-- squared deviation of a residual vector -/
def sumsq (r : List K) : K := (r.map fun x => x * x).sum

theorem sumsq_div (r : List K) (c : K) : sumsq (r.map (· / c)) = sumsq r / (c * c) := by
  unfold sumsq
  simp only [List.map_map, Function.comp_def, div_mul_div_comm, div_eq_mul_inv _ (c * c), List.sum_map_mul_right]

/-- **The unit in which the solver sees the deviations does not matter for the property's clause** (D23: the residual is
divided by the intensity range, `Props/C05 residual_scale_spec`): the solver's cost — the squared deviation in that unit — of the result is not
larger than the candidate's IF AND ONLY IF the squared deviation FROM THE IMAGE is not larger. -/
theorem scaled_cost_order (r r0 : List K) (c : K) (hc : 0 < c) :
    sumsq (r.map (· / c)) ≤ sumsq (r0.map (· / c)) ↔ sumsq r ≤ sumsq r0 := by
  rw [sumsq_div, sumsq_div, div_le_div_iff_of_pos_right (mul_pos hc hc)]

end ordered

/-- non-vacuity: cylindrical grid (position coordinates 0 and 1 fixed), one amplitude -/
example :
    (plan (α := ℚ) ⟨3, 1⟩ [0, 1] [0, 0, 5, 2, 1, 1/10] 0 1 true).x0 = [5, 2, 1, 1/10, 0, 1] ∧
    finish ⟨3, 1⟩ [0, 1] ([0, 0, 5, 2, 1, 1/10] : List ℚ) [6, 3, 2, 1/5, 9, 9] true = [0, 0, 6, 3, 2, 1/5] := by
  decide +kernel

end

/-! ### promotion of the candidate and wrapping of the position -/

/-- **A width that is set — even a sharp interface, width 0 — is what the fit starts from**;
only an unset width is replaced by the grid's typical discretisation. -/
theorem promote_width {α : Type} (dx : α) (c : Cand α) :
    (promote dx c)[c.pos.length + 1]? = some (match c.width with | some w => w | none => dx) := by
  obtain ⟨pos, r, w, amps⟩ := c
  cases w <;> exact (getElem?_mid pos amps r _).2.1

theorem promote_position {α : Type} (dx : α) (c : Cand α) : (promote dx c).take c.pos.length = c.pos := by
  unfold promote; simp

theorem promote_radius {α : Type} (dx : α) (c : Cand α) : (promote dx c)[c.pos.length]? = some c.radius :=
  (getElem?_mid c.pos c.amps c.radius _).1

theorem promote_amps {α : Type} (dx : α) (c : Cand α) : (promote dx c).drop (c.pos.length + 2) = c.amps := by
  unfold promote; simp

/-- numpy's floored modulo, read through the fractional part -/
theorem wrap1_eq_fract (lo x : ℚ) {len : ℚ} (h : len ≠ 0) :
    wrap1 lo len x = lo + len * Int.fract ((x - lo) / len) := by
  unfold wrap1 Int.fract
  rw [show HasFloor.floor ((x - lo) / len) = (⌊(x - lo) / len⌋ : ℚ) from rfl]
  field_simp
  ring

/-- **Wrapping puts a coordinate into `[lo, lo + len)`** and moves it by a whole number of periods -/
theorem wrap1_in_box (lo len x : ℚ) (h : 0 < len) :
    lo ≤ wrap1 lo len x ∧ wrap1 lo len x < lo + len ∧ ∃ k : ℤ, wrap1 lo len x = x - k * len := by
  rw [wrap1_eq_fract lo x h.ne']
  refine ⟨le_add_of_nonneg_right (mul_nonneg h.le (Int.fract_nonneg _)),
    add_lt_add_right (mul_lt_of_lt_one_right h (Int.fract_lt_one _)) _, ⌊(x - lo) / len⌋, ?_⟩
  unfold Int.fract
  field_simp
  ring

/-- a coordinate that already lies in the box is not moved -/
theorem wrap1_id (lo len x : ℚ) (h : 0 < len) (h1 : lo ≤ x) (h2 : x < lo + len) : wrap1 lo len x = x := by
  have hf : Int.fract ((x - lo) / len) = (x - lo) / len :=
    Int.fract_eq_self.mpr ⟨div_nonneg (sub_nonneg.mpr h1) h.le, (div_lt_one h).mpr (sub_lt_iff_lt_add'.mpr h2)⟩
  rw [wrap1_eq_fract lo x h.ne', hf, mul_div_cancel₀ _ h.ne', add_sub_cancel]

section wrap
variable {α : Type} [Add α] [Sub α] [Mul α] [Div α] [HasFloor α]

theorem wrapPos_length (axes : List (Option (α × α))) (pos : List α) :
    (wrapPos axes pos).length = pos.length := by
  fun_induction wrapPos axes pos <;> simp [*]

theorem wrapPos_getElem? (axes : List (Option (α × α))) (pos : List α) (i : ℕ) :
    (wrapPos axes pos)[i]? = pos[i]?.map fun x =>
      match axes[i]? with
      | some (some (lo, len)) => wrap1 lo len x
      | _ => x := by
  induction axes generalizing pos i with
  | nil => simp [wrapPos]
  | cons a axes ih =>
    cases pos with
    | nil => rcases a with _ | ⟨lo, len⟩ <;> rfl
    | cons x xs =>
      cases i with
      | zero => rcases a with _ | ⟨lo, len⟩ <;> rfl
      | succ i => rcases a with _ | ⟨lo, len⟩ <;> exact ih xs i

end wrap

/-- **The wrap that ends `refine_droplet` puts the position inside the box along every periodic axis**
and leaves the others unchanged (`wrapPos`; `refineResult` applies it to the first `L.dim` entries) -/
theorem wrapPos_spec : ∀ (axes : List (Option (ℚ × ℚ))) (pos : List ℚ),
    (wrapPos axes pos).length = pos.length ∧
    ∀ i (hi : i < pos.length), ∀ hi' : i < (wrapPos axes pos).length,
      match axes[i]? with
      | some (some (lo, len)) => 0 < len → lo ≤ (wrapPos axes pos)[i] ∧ (wrapPos axes pos)[i] < lo + len ∧
          ∃ k : ℤ, (wrapPos axes pos)[i] = pos[i] - k * len
      | _ => (wrapPos axes pos)[i] = pos[i] := by
  intro axes pos
  refine ⟨wrapPos_length axes pos, fun i hi hi' => ?_⟩
  have h := wrapPos_getElem? axes pos i
  rw [List.getElem?_eq_getElem hi, List.getElem?_eq_getElem hi', Option.map_some, Option.some.injEq] at h
  rw [h]
  rcases axes[i]? with _ | _ | ⟨lo, len⟩
  · rfl
  · rfl
  · exact wrap1_in_box lo len _

/-- the wrap only touches the position: radius, width and amplitudes of the returned record are the
solver's answer scattered into the promoted record -/
theorem refineResult_tail (L : Layout) (constraints : List Nat) (axes : List (Option (ℚ × ℚ))) (dx : ℚ)
    (c : Cand ℚ) (x : List ℚ) (adjust : Bool) :
    (refineResult L constraints axes dx c x adjust).drop L.dim =
      (finish L constraints (promote dx c) x adjust).drop L.dim := by
  -- both sides drop `L.dim` entries of `X ++ out.drop L.dim`, with `X` as long as `out.take L.dim` (at most `L.dim`)
  have hl := wrapPos_length axes ((finish L constraints (promote dx c) x adjust).take L.dim)
  conv_rhs => rw [← List.take_append_drop L.dim (finish L constraints (promote dx c) x adjust)]
  rw [refineResult, List.drop_append, List.drop_append, hl,
    List.drop_eq_nil_of_le (hl.trans_le (List.length_take_le _ _)), List.drop_eq_nil_of_le (List.length_take_le _ _)]

/-- non-vacuity / regression values: a sharp candidate keeps width 0; a candidate at x = −0.3 on the
periodic box [0, 16) is returned at 15.7; the non-periodic y coordinate is kept -/
example :
    promote (1 : ℚ) ⟨[3, 4], 2, some 0, []⟩ = [3, 4, 2, 0] ∧
    promote (1 : ℚ) ⟨[3, 4], 2, none, []⟩ = [3, 4, 2, 1] ∧
    refineResult (α := ℚ) ⟨2, 0⟩ [] [some (0, 16), none] 1 ⟨[-3/10, 20], 2, some 1, []⟩ [-3/10, 20, 2, 1] false
      = [157/10, 20, 2, 1] := by decide +kernel

/-- **The number of dilation steps is `⌊2w/dx⌋ + 1`**: at least one cell, more than `2w/dx` cells and at most
`2w/dx + 1` — counted in cells: the region reaches two interface widths beyond the candidate whatever the unit of
length is. -/
theorem fitIterations_spec (w dx : ℚ) (hw : 0 ≤ w) (hdx : 0 < dx) :
    1 ≤ fitIterations w dx ∧ 2 * (w / dx) < (fitIterations w dx : ℚ) ∧ (fitIterations w dx : ℚ) ≤ 2 * (w / dx) + 1 := by
  have hv : 0 ≤ 2 * (w / dx) := mul_nonneg zero_le_two (div_nonneg hw hdx.le)
  have e : fitIterations w dx = ⌊2 * (w / dx)⌋₊ + 1 := by rw [← Int.floor_toNat]; exact Nat.add_comm _ _
  rw [e, Nat.cast_add_one]
  exact ⟨Nat.le_add_left 1 _, Nat.lt_floor_add_one _, add_le_add_left (Nat.floor_le hv) 1⟩

/-- the unit of length does not matter -/
theorem fitIterations_scale (w dx lam : ℚ) (hl : lam ≠ 0) :
    fitIterations (lam * w) (lam * dx) = fitIterations w dx := by
  unfold fitIterations
  rw [mul_div_mul_left _ _ hl]

example : fitIterations 0 1 = 1 ∧ fitIterations (3/4) 1 = 2 ∧ fitIterations 1 1 = 3 ∧ fitIterations (39/100) 1 = 1
    ∧ fitIterations 45 (75/2) = 3 ∧ fitIterations (3/100) (1/50) = 4 := by decide +kernel

end DV.C04
