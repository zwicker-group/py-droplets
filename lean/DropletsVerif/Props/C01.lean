/-
  C01 — Locating a rendered emulsion returns each droplet once, with exact volume.
  Counting, merging and volume are C02's (`mergeLoop_partition`, `mergeLoop_volume`, `C02_position_explicit`: one cluster
  per periodic component, volume = number of its cells, position = centre + mean unwrapped offset), applied to the image
  C03 renders (`inside`: the cells whose centres the droplet covers).  Specific to C01, and proved in the parts (each says
  its idea at its head) for ALL grid shapes, spacings, offsets and radii:

  * HalfCell, Ball: one droplet gives one cluster of its covered cells, positioned within HALF A CELL of its centre
    (`single_droplet_within_half_cell`); radial grids (`C01_radial`);
  * Emulsion: several droplets with centres `Rᵢ + Rⱼ + h` apart (`C01_emulsion_model`);
  * Cylinder: cylindrical grids, an on-axis droplet, z periodic or not (`C01_cylinder_model`, `C01_cylinder_periodic_model`);
  * Radius: the located radius, and that the overlap filter removes nothing (`C01_located_spheres_disjoint`).

  Here: the links to C12 (on radial grids the covered shells add up to the sphere of the located radius) and to C03/C18
  (thresholding the rendered field at the midpoint yields `ballMask`).
-/
import DropletsVerif.Props.C01.Cylinder
import DropletsVerif.Props.C01.Radius
import DropletsVerif.Props.C03

namespace DV.C01
open Finset DV.Gen

/-- **Telescoping**: for any volume function with `V 0 = 0`, the shells `[i·dr, (i+1)·dr)`,
`i < m`, add up to the sphere of radius `m·dr` — the returned droplet's volume equals the total
volume of the covered cells. -/
theorem shells_telescope (V : ℝ → ℝ) (hV : V 0 = 0) (dr : ℝ) (m : ℕ) :
    ∑ i ∈ range m, (V (((i : ℝ) + 1) * dr) - V ((i : ℝ) * dr)) = V ((m : ℝ) * dr) := by
  have := Finset.sum_range_sub (fun i : ℕ => V ((i : ℝ) * dr)) m
  simp only [Nat.cast_add, Nat.cast_one, Nat.cast_zero, zero_mul, hV, sub_zero] at this
  exact this

/-- the regenerated `volume_from_radius_pde` vanishes at radius 0 in every supported dimension, so the
telescoping applies to the library's own volume formula -/
theorem volume_at_zero (d : ℕ) (hd : d = 1 ∨ d = 2 ∨ d = 3) :
    DV.Gen.volume_from_radius_pde (0 : ℝ) d = .ok 0 := by
  rw [C12.volume_eq hd, zero_pow (C12.Dim.ne_zero hd), mul_zero]

/-- **Rendering, then thresholding at the midpoint, gives exactly the cells the droplet covers**: for a
diffuse droplet (`w > 0`, `vmin < vmax`, `R ≥ 0`) the rendered value of a cell whose squared distance from
the centre is `d2` exceeds `(vmin + vmax)/2` iff `d2 < R²` — the condition `DV.Render.inside` / `ballMask`
evaluates exactly.  This is the link rendering (C03) → threshold rule 'extrema'/0.5 (C18) → image of C01/C02. -/
theorem threshold_of_render_is_ball (vmin vmax R w d2 : ℝ) (h : vmin < vmax) (hw : 0 < w) (hR : 0 ≤ R) (hd : 0 ≤ d2) :
    (vmin + vmax) / 2 < scale_field vmin vmax (render_value diffuse_inside diffuse_smooth R w (Real.sqrt d2) false)
      ↔ d2 < R * R := by
  rw [DV.C03.rendered_gt_mid_iff vmin vmax R w _ h hw, ← sq, Real.sqrt_lt hd hR]

end DV.C01
