/-
  C08 — Saving and loading returns an equal object.
  Theorems about Model/Hdf.lean: emulsions, tracks, time courses and track lists of well-formed
  droplets (any class, any dimension, any number of amplitudes ≥ 1, unset widths as NaN patterns,
  empty collections and empty members).
-/
import DropletsVerif.Model.Hdf
import DropletsVerif.Lemmas.ExceptMapM
import Mathlib.Tactic

namespace DV.C08
open DV.Hdf DV.ClassSel

theorem mapM_error_of_exists {α β : Type} (f : α → Except String β) (l : List α)
    (h : ∃ x ∈ l, ∃ e, f x = .error e) : ∃ e, l.mapM f = .error e := by
  obtain ⟨x, hx, e, he⟩ := h
  cases hm : l.mapM f with
  | error e' => exact ⟨e', rfl⟩
  | ok rs =>
    have h2 := (mapM_eq_ok_iff f l rs).mp hm
    obtain ⟨i, hi, rfl⟩ := List.getElem_of_mem hx
    cases he.symm.trans (h2.get hi (h2.length_eq ▸ hi))

theorem parseRow_row (d : Drop) (h : WF d = true) :
    parseRow d.cls d.pos.length d.amps.length (row d) = .ok d := by
  obtain ⟨cls, pos, radius, width, amps⟩ := d
  have hw : hasWidth cls = width.isSome := by
    simp only [WF, Bool.and_eq_true, beq_iff_eq] at h
    exact h.1.2.symm
  show parseRow cls pos.length amps.length (pos ++ [radius] ++ width.toList ++ amps) = _
  -- the row holds a width exactly when the class has one (`hw`, all that is used of `WF`): the length
  -- test passes, and `take`/`drop` cut the row back into its fields
  cases width <;> simp [parseRow, rowLen, hw] <;> omega

theorem decodeRow_row (valid : Drop → Bool) (d : Drop) (h : WF d = true) (hv : valid d = true) {c : Cls} {dim modes : Nat}
    (hl : d.cls = c ∧ d.pos.length = dim ∧ d.amps.length = modes) :
    decodeRow valid c dim modes (row d) = .ok d := by
  obtain ⟨rfl, rfl, rfl⟩ := hl
  simp [decodeRow, parseRow_row d h, hv]

theorem decodeTRow_row (valid : Drop → Bool) (p : Nat × Drop) (h : WF p.2 = true) (hv : valid p.2 = true) {c : Cls}
    {dim modes : Nat} (hl : p.2.cls = c ∧ p.2.pos.length = dim ∧ p.2.amps.length = modes) :
    decodeTRow valid c dim modes (p.1 :: row p.2) = .ok p := by
  simp [decodeTRow, decodeRow_row valid p.2 h hv hl]

theorem encodeEmulsion_ok {ds : List Drop} {s : Dataset} (h : encodeEmulsion ds = .ok s) :
    (ds = [] ∧ s = ⟨none, 0, 0, []⟩) ∨ ∃ c dim modes, s = ⟨some c, dim, modes, ds.map row⟩ ∧
      ∀ d ∈ ds, d.cls = c ∧ d.pos.length = dim ∧ d.amps.length = modes := by
  cases ds with
  | nil => cases h; exact Or.inl ⟨rfl, rfl⟩
  | cons d0 rest =>
    simp only [encodeEmulsion] at h
    split_ifs at h with h1 h2
    cases h
    refine Or.inr ⟨_, _, _, rfl, fun d hd => ?_⟩
    simp only [Bool.not_eq_true, List.any_eq_false, bne_iff_ne, ne_eq, Decidable.not_not, layout, Prod.mk.injEq]
      at h1 h2
    exact ⟨h1 d hd, h2 d hd⟩

/-- **An emulsion that can be written reads back equal** -/
theorem roundtrip_emulsion (valid : Drop → Bool) (ds : List Drop) (s : Dataset)
    (hwf : ∀ d ∈ ds, WF d = true) (hv : ∀ d ∈ ds, valid d = true)
    (h : encodeEmulsion ds = .ok s) : decodeEmulsion valid s = .ok ds := by
  rcases encodeEmulsion_ok h with ⟨rfl, rfl⟩ | ⟨c, dim, modes, rfl, hu⟩
  · rfl
  · exact mapM_map_ok _ _ _ fun d hd => decodeRow_row valid d (hwf d hd) (hv d hd) (hu d hd)

/-- **Writing either raises or produces a file that reads back as exactly what was written** —
for every list of (individually well-formed) droplets, uniform or not. -/
theorem encode_error_or_faithful (valid : Drop → Bool) (ds : List Drop)
    (hwf : ∀ d ∈ ds, WF d = true) (hv : ∀ d ∈ ds, valid d = true) :
    (∃ e, encodeEmulsion ds = .error e) ∨
    ∃ s, encodeEmulsion ds = .ok s ∧ decodeEmulsion valid s = .ok ds := by
  cases h : encodeEmulsion ds with
  | error e => exact Or.inl ⟨e, rfl⟩
  | ok s => exact Or.inr ⟨s, rfl, roundtrip_emulsion valid ds s hwf hv h⟩

/-- the class written is the class of every member (so `droplet_from_data` rebuilds the right class) -/
theorem encoded_class (ds : List Drop) (s : Dataset) (h : encodeEmulsion ds = .ok s) :
    (ds = [] ∧ s.cls = none) ∨ ∃ c, s.cls = some c ∧ ∀ d ∈ ds, d.cls = c := by
  rcases encodeEmulsion_ok h with ⟨rfl, rfl⟩ | ⟨c, dim, modes, rfl, hu⟩
  · exact Or.inl ⟨rfl, rfl⟩
  · exact Or.inr ⟨c, rfl, fun d hd => (hu d hd).1⟩

theorem encodeTrack_ok {tr : List (Nat × Drop)} {s : Dataset} (h : encodeTrack tr = .ok s) :
    (tr = [] ∧ s = ⟨none, 0, 0, []⟩) ∨ ∃ c dim modes, s = ⟨some c, dim, modes, tr.map fun p => p.1 :: row p.2⟩ ∧
      ∀ p ∈ tr, p.2.cls = c ∧ p.2.pos.length = dim ∧ p.2.amps.length = modes := by
  cases tr with
  | nil => cases h; exact Or.inl ⟨rfl, rfl⟩
  | cons p0 rest =>
    simp only [encodeTrack] at h
    split_ifs at h with h1
    cases h
    refine Or.inr ⟨_, _, _, rfl, fun p hp => ?_⟩
    simp only [Bool.not_eq_true, List.any_eq_false, Bool.or_eq_false_iff, bne_eq_false_iff_eq, layout, Prod.mk.injEq]
      at h1
    exact h1 p hp

/-- **A track that can be written reads back equal**: same times, same droplets, same order. -/
theorem roundtrip_track (valid : Drop → Bool) (tr : List (Nat × Drop)) (s : Dataset)
    (hwf : ∀ p ∈ tr, WF p.2 = true) (hv : ∀ p ∈ tr, valid p.2 = true)
    (h : encodeTrack tr = .ok s) : decodeTrack valid s = .ok tr := by
  rcases encodeTrack_ok h with ⟨rfl, rfl⟩ | ⟨c, dim, modes, rfl, hu⟩
  · rfl
  · exact mapM_map_ok _ _ _ fun p hp => decodeTRow_row valid p (hwf p hp) (hv p hp) (hu p hp)

theorem track_error_or_faithful (valid : Drop → Bool) (tr : List (Nat × Drop))
    (hwf : ∀ p ∈ tr, WF p.2 = true) (hv : ∀ p ∈ tr, valid p.2 = true) :
    (∃ e, encodeTrack tr = .error e) ∨ ∃ s, encodeTrack tr = .ok s ∧ decodeTrack valid s = .ok tr := by
  cases h : encodeTrack tr with
  | error e => exact Or.inl ⟨e, rfl⟩
  | ok s => exact Or.inr ⟨s, rfl, roundtrip_track valid tr s hwf hv h⟩

theorem digitsW_length (w n : Nat) : (digitsW w n).length = w := by
  induction w generalizing n with
  | zero => rfl
  | succ w ih => simp [digitsW, ih]

theorem lexLt_append (p q x y : List Nat) (hlen : p.length = q.length) :
    lexLt (p ++ x) (q ++ y) = (lexLt p q || (p == q && lexLt x y)) := by
  induction p generalizing q with
  | nil =>
    cases q with
    | nil => cases y <;> rfl
    | cons b q => cases hlen
  | cons a p ih =>
    cases q with
    | nil => cases hlen
    | cons b q =>
      rw [List.cons_append, List.cons_append, lexLt, lexLt, ih q (Nat.succ.inj hlen), List.cons_beq_cons]
      cases decide (a < b) <;> cases a == b <;> rfl

theorem digitsW_lt (w n m : Nat) (hm : m < 10 ^ w) (h : n < m) :
    lexLt (digitsW w n) (digitsW w m) = true := by
  induction w generalizing n m with
  | zero => omega
  | succ w ih =>
    rw [digitsW, digitsW, lexLt_append _ _ _ _ (by rw [digitsW_length, digitsW_length])]
    rcases (Nat.div_le_div_right (c := 10) h.le).lt_or_eq with hq | hq
    · rw [ih _ _ (Nat.div_lt_of_lt_mul (by rwa [pow_succ, mul_comm] at hm)) hq, Bool.true_or]
    · have : n % 10 < m % 10 := by omega
      simp [hq, lexLt, this]

/-- **Below one million members the written keys are strictly increasing in string order**, so
reading them back in sorted order visits the members in the order they were written. -/
theorem pad6_lex (i j : Nat) (hj : j < 10 ^ 6) (h : i < j) : lexLt (pad6 i) (pad6 j) = true := by
  have hi : i < 10 ^ 6 := lt_trans h hj
  simp only [pad6, hi, hj, if_true]
  exact digitsW_lt 6 i j hj h

/-- beyond that the order breaks (finding D13, theoretical): "1000000" sorts before "999999" -/
theorem pad6_overflow_witness : lexLt (pad6 1000000) (pad6 999999) = true := by decide

/-- Members written one by one under the keys `pad6 k, pad6 (k + 1), …`: if every entry that `enc` makes carries
its key and decodes to its member, the file lists these keys in order and decodes, entry by entry, to the members. -/
theorem entries_struct {α : Type} (enc : α × Nat → Except String (List Nat × Nat × Dataset))
    (dec : List Nat × Nat × Dataset → Except String α) (l : List α)
    (henc : ∀ x ∈ l, ∀ k e, enc (x, k) = .ok e → e.1 = pad6 k ∧ dec e = .ok x) (k : Nat) (f : File)
    (h : (l.zipIdx k).mapM enc = .ok f) :
    f.map (·.1) = (List.range' k l.length).map pad6 ∧ f.mapM dec = .ok l := by
  rw [mapM_eq_ok_iff] at h ⊢
  induction l generalizing k f with
  | nil => cases h; exact ⟨rfl, .nil⟩
  | cons x l ih =>
    obtain ⟨e, rest, he, hr, rfl⟩ := List.forall₂_cons_left_iff.mp h
    obtain ⟨h1, h2⟩ := henc x List.mem_cons_self k e he
    obtain ⟨ih1, ih2⟩ := ih (fun y hy => henc y (List.mem_cons_of_mem _ hy)) (k + 1) rest hr
    exact ⟨by rw [List.map_cons, h1, ih1, List.length_cons, List.range'_succ, List.map_cons], .cons h2 ih2⟩

theorem keys_sorted (f : File) (k n : Nat) (hk : k + n ≤ 10 ^ 6)
    (h : f.map (·.1) = (List.range' k n).map pad6) : f.Pairwise (fun a b => keyLe a b = true) := by
  have : ((List.range' k n).map pad6).Pairwise fun a b => lexLe a b = true :=
    List.pairwise_map.mpr <| List.Pairwise.imp_of_mem (fun {i j} _ hj hij => by
      rw [lexLe, pad6_lex i j (by have := (List.mem_range'_1.mp hj).2; omega) hij, Bool.or_true])
      List.pairwise_lt_range'
  rw [← h, List.pairwise_map] at this
  exact this

/-- **A time course with at most 10^6 members that can be written reads back equal**: same
members, same times, same order. -/
theorem roundtrip_timecourse (valid : Drop → Bool) (tc : List (Nat × List Drop)) (f : File)
    (hn : tc.length ≤ 10 ^ 6)
    (hwf : ∀ m ∈ tc, ∀ d ∈ m.2, WF d = true) (hv : ∀ m ∈ tc, ∀ d ∈ m.2, valid d = true)
    (h : encodeTC tc = .ok f) : decodeTC valid f = .ok tc := by
  obtain ⟨hk, hd⟩ := entries_struct encEntryTC (decEntryTC valid) tc (fun m hm k e he => by
    unfold encEntryTC at he
    split at he
    · rename_i s hs
      cases he
      exact ⟨rfl, by simp [decEntryTC, roundtrip_emulsion valid m.2 s (hwf m hm) (hv m hm) hs]⟩
    · cases he) 0 f h
  unfold decodeTC
  rw [List.mergeSort_of_pairwise (keys_sorted f 0 tc.length (by omega) hk)]
  exact hd

/-- **A track list with at most 10^6 tracks that can be written reads back equal**: same tracks,
same order, every track with the same times and droplets. -/
theorem roundtrip_tracklist (valid : Drop → Bool) (tl : List (List (Nat × Drop))) (f : File)
    (hn : tl.length ≤ 10 ^ 6)
    (hwf : ∀ tr ∈ tl, ∀ p ∈ tr, WF p.2 = true) (hv : ∀ tr ∈ tl, ∀ p ∈ tr, valid p.2 = true)
    (h : encodeTL tl = .ok f) : decodeTL valid f = .ok tl := by
  obtain ⟨hk, hd⟩ := entries_struct encEntryTL (fun e => decodeTrack valid e.2.2) tl (fun tr htr k e he => by
    unfold encEntryTL at he
    split at he
    · rename_i s hs
      cases he
      exact ⟨rfl, roundtrip_track valid tr s (hwf tr htr) (hv tr htr) hs⟩
    · cases he) 0 f h
  unfold decodeTL
  rw [List.mergeSort_of_pairwise (keys_sorted f 0 tl.length (by omega) hk)]
  exact hd

/-- the bound of `keys_sorted` is sharp: the keys of members 999999 and 1000000 (the pair of
`pad6_overflow_witness`) are not in order -/
theorem keys_unsorted_beyond_limit :
    ¬ ([pad6 999999, pad6 1000000].Pairwise fun a b => lexLe a b = true) := by decide

end DV.C08
