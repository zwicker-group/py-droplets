/-
  C10 — Overlap removal leaves a separated subset and distance queries agree.
  Theorems about `DV.Overlap.loop` (Model/Overlap.lean), for EVERY distance table `D`
  (symmetric or not), every radius table, every minimal distance of either sign, every list of
  items, in any linearly ordered number type (instantiated at ℚ by the driver).
-/
import DropletsVerif.Model.Overlap
import Mathlib.Tactic

namespace DV.C10
open DV.Overlap

variable {α : Type} [LinearOrder α]

theorem mem_offDiag {items : List Nat} {a b : Nat} :
    (a, b) ∈ offDiag items ↔ a ∈ items ∧ b ∈ items ∧ b ≠ a := by
  simp [offDiag]

/-- `firstMin` is the library's `List.argmin` (the first minimiser) of the table entry -/
theorem firstMin_eq_argmin (D : Nat → Nat → α) (ps : List (Nat × Nat)) :
    firstMin D ps = ps.argmin fun p => D p.1 p.2 := by
  have : better D = List.argAux fun b c : Nat × Nat => D b.1 b.2 < D c.1 c.2 := by
    funext best p; cases best <;> rfl
  rw [firstMin, this]; rfl

theorem firstMin_eq_none {D : Nat → Nat → α} {ps : List (Nat × Nat)} (h : firstMin D ps = none) : ps = [] :=
  List.argmin_eq_none.mp (firstMin_eq_argmin D ps ▸ h)

theorem firstMin_eq_some {D : Nat → Nat → α} {ps : List (Nat × Nat)} {p : Nat × Nat}
    (h : firstMin D ps = some p) : p ∈ ps ∧ ∀ q ∈ ps, D p.1 p.2 ≤ D q.1 q.2 :=
  have h' : p ∈ ps.argmin fun p => D p.1 p.2 := firstMin_eq_argmin D ps ▸ h
  ⟨List.argmin_mem h', fun _ hq => List.le_of_mem_argmin hq h'⟩

/-- Invariant rule for the loop; every property below is an instance.  The loop either stops, and
then (if the fuel sufficed) no pair is closer than `m`, or it removes some `u` that is too close
to a `w` at least as large and goes on with the remaining items. -/
theorem loop_rec {D : Nat → Nat → α} {r : Nat → α} {m : α}
    {P : Nat → List Nat → List Nat × List Removal → Prop}
    (stop : ∀ fuel items, (items.length ≤ fuel → ∀ a b, a ∈ items → b ∈ items → b ≠ a → m ≤ D a b) →
      P fuel items (items, []))
    (step : ∀ fuel items u w out, u ∈ items → w ∈ items → u ≠ w → r u ≤ r w →
      (D u w < m ∨ D w u < m) → P fuel (items.erase u) out →
      P (fuel + 1) items (out.1, ⟨u, w, items⟩ :: out.2))
    (fuel : Nat) (items : List Nat) : P fuel items (loop D r m fuel items) := by
  induction fuel generalizing items with
  | zero => exact stop 0 items fun h => by simp [List.length_eq_zero_iff.mp (Nat.le_zero.mp h)]
  | succ fuel ih =>
    unfold loop
    split
    · next h =>
      refine stop _ _ fun _ a b ha hb hab => ?_
      cases firstMin_eq_none h ▸ mem_offDiag.mpr ⟨ha, hb, hab⟩
    · next x y h =>
      obtain ⟨hxy, hmin⟩ := firstMin_eq_some h
      obtain ⟨hx, hy, hne⟩ := mem_offDiag.mp hxy
      split
      · next hd =>
        by_cases hr : r y < r x
        · simpa [hr] using step fuel items y x _ hy hx hne hr.le (.inr hd) (ih _)
        · simpa [hr] using step fuel items x y _ hx hy hne.symm (not_lt.mp hr) (.inl hd) (ih _)
      · next hd =>
        exact stop _ _ fun _ a b ha hb hab =>
          (not_lt.mp hd).trans (hmin (a, b) (mem_offDiag.mpr ⟨ha, hb, hab⟩))

/-- **Survivors are the original objects in their original order.** -/
theorem removed_sublist (D : Nat → Nat → α) (r : Nat → α) (m : α) (fuel : Nat) (items : List Nat) :
    (loop D r m fuel items).1.Sublist items :=
  loop_rec (P := fun _ items out => out.1.Sublist items) (fun _ _ _ => .refl _)
    (fun _ _ _ _ _ _ _ _ _ _ ih => ih.trans List.erase_sublist) fuel items

/-- **No remaining pair is closer than the minimal distance** (fuel = number of items is enough:
the loop removes one item per iteration). -/
theorem removed_separated (D : Nat → Nat → α) (r : Nat → α) (m : α) (fuel : Nat) (items : List Nat)
    (hf : items.length ≤ fuel) :
    ∀ a b, a ∈ (loop D r m fuel items).1 → b ∈ (loop D r m fuel items).1 → b ≠ a → m ≤ D a b := by
  refine loop_rec (P := fun fuel items out => items.length ≤ fuel →
    ∀ a b, a ∈ out.1 → b ∈ out.1 → b ≠ a → m ≤ D a b) (fun _ _ h => h) ?_ fuel items hf
  intro fuel items u w out hu _ _ _ _ ih hf
  exact ih (by rw [List.length_erase_of_mem hu]; omega)

/-- **Every removed droplet was too close to one at least as large that was present at that
moment**; the list recorded with each removal is a sub-list of the input. -/
theorem removed_dominated (D : Nat → Nat → α) (r : Nat → α) (m : α) (fuel : Nat) (items : List Nat) :
    ∀ e ∈ (loop D r m fuel items).2,
      e.present.Sublist items ∧ e.removed ∈ e.present ∧ e.witness ∈ e.present ∧
      e.removed ≠ e.witness ∧ r e.removed ≤ r e.witness ∧
      (D e.removed e.witness < m ∨ D e.witness e.removed < m) := by
  refine loop_rec (P := fun _ items out => ∀ e ∈ out.2, e.present.Sublist items ∧
    e.removed ∈ e.present ∧ e.witness ∈ e.present ∧ e.removed ≠ e.witness ∧
    r e.removed ≤ r e.witness ∧ (D e.removed e.witness < m ∨ D e.witness e.removed < m))
    (fun _ _ _ e he => by cases he) ?_ fuel items
  intro fuel items u w out hu hw hne hr hd ih e he
  rcases List.mem_cons.mp he with rfl | he
  · exact ⟨.refl _, hu, hw, hne, hr, hd⟩
  · exact ⟨(ih e he).1.trans List.erase_sublist, (ih e he).2⟩

/-- **A strictly largest droplet always survives.** -/
theorem largest_survives (D : Nat → Nat → α) (r : Nat → α) (m : α) (fuel : Nat) (items : List Nat)
    (a : Nat) (ha : a ∈ items) (hmax : ∀ b ∈ items, b ≠ a → r b < r a) :
    a ∈ (loop D r m fuel items).1 := by
  refine loop_rec (P := fun _ items out => a ∈ items → (∀ b ∈ items, b ≠ a → r b < r a) → a ∈ out.1)
    (fun _ _ _ ha _ => ha) ?_ fuel items ha hmax
  intro fuel items u w out _ hw hne hr _ ih ha hmax
  -- the removed `u` is not `a`, since its witness `w` is at least as large
  have hua : u ≠ a := fun e => (hmax w hw (e ▸ hne.symm)).not_ge (e ▸ hr)
  exact ih ((List.mem_erase_of_ne hua.symm).mpr ha) fun b hb => hmax b (List.mem_of_mem_erase hb)

/-- **Nothing to remove**: if no pair is closer than the minimal distance the emulsion is returned unchanged -/
theorem loop_noop (D : Nat → Nat → α) (r : Nat → α) (m : α) (fuel : Nat) (items : List Nat)
    (hsep : ∀ a b, a ∈ items → b ∈ items → b ≠ a → m ≤ D a b) :
    loop D r m fuel items = (items, []) := by
  refine loop_rec (P := fun _ items out => (∀ a b, a ∈ items → b ∈ items → b ≠ a → m ≤ D a b) →
    out = (items, [])) (fun _ _ _ _ => rfl) ?_ fuel items hsep
  intro fuel items u w out hu hw hne _ hd _ hsep
  exact absurd hd (not_or.mpr ⟨(hsep u w hu hw hne.symm).not_gt, (hsep w u hw hu hne).not_gt⟩)

/-- **A second call removes nothing.** -/
theorem removed_idempotent (D : Nat → Nat → α) (r : Nat → α) (m : α) (fuel fuel' : Nat)
    (items : List Nat) (hf : items.length ≤ fuel) :
    loop D r m fuel' (loop D r m fuel items).1 = ((loop D r m fuel items).1, []) :=
  loop_noop D r m fuel' _ (removed_separated D r m fuel items hf)

/-- nothing is lost: input = survivors + removed (as multisets) -/
theorem removed_partition (D : Nat → Nat → α) (r : Nat → α) (m : α) (fuel : Nat) (items : List Nat) :
    items.Perm ((loop D r m fuel items).2.map (·.removed) ++ (loop D r m fuel items).1) :=
  loop_rec (P := fun _ items out => items.Perm (out.2.map (·.removed) ++ out.1)) (fun _ _ _ => .refl _)
    (fun _ _ _ _ _ hu _ _ _ _ ih => (List.perm_cons_erase hu).trans (ih.cons _)) fuel items

section field
variable {K : Type} [Field K]

/-- symmetric with zero diagonal for ANY centre-distance function `d`, even an asymmetric one:
only the upper triangle is evaluated and then mirrored -/
theorem pairwise_symm_zero_diag (d : Nat → Nat → K) (r : Nat → K) (sub : Bool) (i j : Nat) :
    pairwise d r sub i j = pairwise d r sub j i ∧ pairwise d r sub i i = 0 := by
  refine ⟨?_, if_pos rfl⟩
  by_cases h : i = j
  · rw [h]
  · simp only [pairwise, h, Ne.symm h, if_false, Nat.min_comm j i, Nat.max_comm j i]

/-- entries are the centre distance, optionally minus both radii -/
theorem pairwise_entry (d : Nat → Nat → K) (r : Nat → K) (i j : Nat) (h : i < j) :
    pairwise d r false i j = d i j ∧ pairwise d r true i j = d i j - (r i + r j) := by
  simp [pairwise, h.ne, Nat.min_eq_left h.le, Nat.max_eq_right h.le]

/-- two droplets overlap (`distance < r₁ + r₂`, `SphericalDroplet.overlaps`) exactly when the
surface distance is negative -/
theorem overlaps_iff_negative [LinearOrder K] [IsStrictOrderedRing K] (dist r1 r2 : K) : dist < r1 + r2 ↔ dist - (r1 + r2) < 0 :=
  sub_neg.symm

end field

/-- the order the theorems talk about is the order the executable model uses at `ℚ`, the type the
driver computes with -/
example : (Rat.instLT : LT ℚ) = (inferInstance : Preorder ℚ).toLT := rfl

/-- a concrete chain 0 – 1 – 2 of overlapping droplets with tied radii: something is removed,
the survivors are separated, and the largest (2) survives -/
example :
    let D : Nat → Nat → ℚ := fun a b => if a + 1 = b ∨ b + 1 = a then -1 else 5
    let r : Nat → ℚ := fun a => if a = 2 then 2 else 1
    removeOverlapping D r 0 3 = [2] := by decide +kernel

end DV.C10
