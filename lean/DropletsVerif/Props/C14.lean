/-
  C14 — Tracking during a simulation equals analysing the stored fields afterwards.
  Theorems about Model/Tracker.lean, for EVERY analysis function (also failing ones), every
  settings record and every sequence of (field, time) pairs.
-/
import DropletsVerif.Model.Tracker
import DropletsVerif.Lemmas.ExceptMapM
import Mathlib.Tactic

namespace DV.C14
open DV.Tracker

variable {θ ρ F E T V : Type}

/-- **Every analysis option of the tracker is forwarded** to `locate_droplets` under the right
keyword (`perturbation_modes ↦ modes`), unchanged. -/
theorem optsOf_forwards_all (s : Settings θ ρ) :
    (optsOf s).threshold = s.threshold ∧ (optsOf s).minimalRadius = s.minimalRadius ∧
    (optsOf s).refine = s.refine ∧ (optsOf s).refineArgs = s.refineArgs ∧
    (optsOf s).modes = s.perturbationModes := ⟨rfl, rfl, rfl, rfl, rfl⟩

theorem foldlM_handle (locate : Opts θ ρ → F → Except String E) (s : Settings θ ρ)
    (frames : List (F × T)) (st : List (T × E)) :
    frames.foldlM (handle locate s) st =
      match (frames.map (·.1)).mapM (locate (optsOf s)) with
      | .ok es => .ok (st ++ (frames.map (·.2)).zip es)
      | .error err => .error err := by
  induction frames generalizing st with
  | nil => simp [pure, Except.pure]
  | cons fr frames ih =>
    simp only [List.foldlM_cons, List.map_cons, List.mapM_cons, bind, Except.bind, handle]
    cases locate (optsOf s) fr.1 with
    | error err => rfl
    | ok e =>
      simp only [ih]
      cases (frames.map (·.1)).mapM (locate (optsOf s)) <;> simp [pure, Except.pure]

/-- **Online = offline.**  Feeding any sequence of fields and times to the tracker records exactly
the time course obtained by analysing the same fields afterwards with the same settings — frame
by frame, with identical times; and both fail (with the same error) if the analysis fails on some
frame. -/
theorem tracker_eq_offline (locate : Opts θ ρ → F → Except String E) (s : Settings θ ρ)
    (frames : List (F × T)) :
    runTracker locate s frames = fromStorage locate (optsOf s) frames := by
  unfold runTracker fromStorage
  rw [foldlM_handle]
  cases (frames.map (·.1)).mapM (locate (optsOf s)) <;> simp

/-- the recorded times are exactly the times fed in, in order -/
theorem tracker_times (locate : Opts θ ρ → F → Except String E) (s : Settings θ ρ)
    (frames : List (F × T)) (res : List (T × E)) (h : runTracker locate s frames = .ok res) :
    res.map (·.1) = frames.map (·.2) := by
  rw [tracker_eq_offline, fromStorage] at h
  split at h
  · next es hm =>
    cases h
    have hlen := ((mapM_eq_ok_iff _ _ _).mp hm).length_eq
    rw [List.map_fst_zip]
    simp [← hlen]
  · cases h

theorem foldl_lsHandle (ls : F → Except String V) (frames : List (F × T)) (st : List (T × Option V)) :
    frames.foldl (lsHandle ls) st =
      st ++ frames.map (fun fr => (fr.2, valueOrNaN (ls fr.1))) := by
  induction frames generalizing st with
  | nil => simp
  | cons fr frames ih =>
    simp only [List.foldl_cons, ih, lsHandle, List.map_cons, List.append_assoc, List.singleton_append]

/-- **The length-scale tracker records, for every frame, exactly what the analysis returns (NaN
when it raises), with the frame's time** — it is a total function, so it never raises. -/
theorem lengthscale_records_all (ls : F → Except String V) (frames : List (F × T)) :
    runLs ls frames =
      frames.map (fun fr => (fr.2, valueOrNaN (ls fr.1))) := by
  unfold runLs; rw [foldl_lsHandle]; simp

/-- non-vacuity: an analysis that fails on the second of three frames -/
example :
    runTracker (θ := Nat) (ρ := Nat) (F := Nat) (E := Nat) (T := Nat)
      (fun _ f => if f = 2 then .error "boom" else .ok (10 * f)) ⟨0, 0, false, 0, 0⟩ [(1, 5), (2, 6), (3, 7)]
      = .error "boom" ∧
    runLs (F := Nat) (T := Nat) (V := Nat) (fun f => if f = 2 then .error "boom" else .ok (10 * f)) [(1, 5), (2, 6), (3, 7)]
      = [(5, some 10), (6, none), (7, some 30)] := by decide

/-- **An integer source selects that component of a collection — component 0 included** -/
theorem extract_index {F : Type} (g : List F → F) (fs : List F) (k : Nat) (hk : k < fs.length) :
    extract (.index k) g ⟨true, fs⟩ = .ok fs[k] := by
  unfold extract
  simp [List.getElem?_eq_getElem hk]

theorem extract_asIs {F : Type} (g : List F → F) (f : F) : extract .asIs g ⟨false, [f]⟩ = .ok f := rfl

theorem extract_func {F : Type} (g : List F → F) (st : State F) : extract .func g st = .ok (g st.fields) := rfl

/-- **With a source, the tracker records exactly what the analysis returns for the selected field**
(NaN when it fails), at the frame's time; the selection itself is the only thing that can raise. -/
theorem lengthscale_records_selected {F T V : Type} (src : Source) (g : List F → F) (ls : F → Except String V)
    (st : List (T × Option V)) (state : State F) (t : T) (f : F) (h : extract src g state = .ok f) :
    lsHandleSrc src g ls st (state, t) = .ok (st ++ [(t, valueOrNaN (ls f))]) := by
  unfold lsHandleSrc
  simp only [h]

example : extract (F := Nat) (.index 0) (fun _ => 7) ⟨true, [3, 4]⟩ = .ok 3 ∧
    extract (F := Nat) .asIs (fun _ => 7) ⟨true, [3, 4]⟩ = .error "TypeError" := by decide

end DV.C14
