/-
  C09 — Analysis never aborts on valid input and returns finite droplets.
  The totality face of the models: every modelled path either returns or raises a DOCUMENTED
  error.  This file proves the dispatch part (Model/Dispatch.lean); the totality theorems proved
  with C03, C06, C14 and C19 are restated at the end under names of C09, so that a change breaking
  one of them also breaks C09's obligations.  That the starting point of the fit is feasible, so
  that the solver is not rejected (C04 `refinePlan_x0_feasible`), is imported only, not restated.
-/
import DropletsVerif.Model.Dispatch
import DropletsVerif.Props.C03
import DropletsVerif.Props.C04
import DropletsVerif.Props.C06
import DropletsVerif.Props.C14
import DropletsVerif.Props.C19

namespace DV.C09
open DV.Dispatch

theorem locateOutcome_valid (g : GridKind) (dim modes : Nat) (hm : modes = 0 ∨ dim = 2 ∨ dim = 3) :
    locateOutcome true g dim modes = maskOutcome g := by
  have : ¬ (modes > 0 ∧ dim ≠ 2 ∧ dim ≠ 3) := by omega
  simp [locateOutcome, this]

/-- **The documented invalid requests raise the documented error** (that no other request raises is
`locate_total`; `maskOutcome .notAGrid`, a ValueError, is not covered) -/
theorem locate_documented_errors (g : GridKind) (dim modes : Nat) :
    locateOutcome false g dim modes = .error "TypeError" ∧
    (modes > 0 → dim ≠ 2 → dim ≠ 3 → locateOutcome true g dim modes = .error "ValueError") ∧
    ((modes = 0 ∨ dim = 2 ∨ dim = 3) → locateOutcome true .otherGrid dim modes = .error "NotImplementedError") :=
  ⟨rfl, fun hm h2 h3 => by simp [locateOutcome, hm, h2, h3], locateOutcome_valid .otherGrid dim modes⟩

/-- **Every valid request on a supported grid family goes through** -/
theorem locate_total (g : GridKind) (dim modes : Nat)
    (hg : g = .cartesian ∨ g = .sphericalSym ∨ g = .cylindricalSym) (hm : modes = 0 ∨ dim = 2 ∨ dim = 3) :
    locateOutcome true g dim modes = .ok () := by
  rw [locateOutcome_valid g dim modes hm]
  rcases hg with rfl | rfl | rfl <;> rfl

theorem cylSingle_ok (cs : List Cluster) (h : ∀ c ∈ cs, (c.onAxis && c.spans) = false) :
    cylSingle cs = .ok ((cs.zipIdx.filter fun p => p.1.onAxis).map fun p => p.2 + 1) := by
  have hc : cs.zipIdx.any (fun p => p.1.onAxis && p.1.spans) = false :=
    List.any_eq_false.mpr fun p hp => by simp [h p.1 (List.fst_mem_of_mem_zipIdx hp)]
  simp [cylSingle, hc]

/-- **Cylindrical images never abort**: whatever the clusters look like (none on the axis, some
spanning the padded range), the periodic and the non-periodic branch return a list of candidates. -/
theorem cyl_total (periodic : Bool) (padded unpadded : List Cluster) (insideBox : Nat → Bool) :
    ∃ idx, cylLocate periodic padded unpadded insideBox = .ok idx := by
  have hsingle : ∃ idx, cylSingle (unpadded.map fun c => { c with spans := false }) = .ok idx :=
    ⟨_, cylSingle_ok _ fun c hc => by
      obtain ⟨c', _, rfl⟩ := List.mem_map.mp hc
      exact Bool.and_false _⟩
  unfold cylLocate
  cases periodic
  · exact hsingle
  · cases h : cylSingle padded with
    | ok idx => exact ⟨_, rfl⟩
    | error e => exact hsingle

/-- with no cluster on the axis the list is empty — for `cylSingle`, not lifted to `cylLocate` -/
theorem cyl_none_on_axis (clusters : List Cluster) (h : ∀ c ∈ clusters, c.onAxis = false) :
    cylSingle clusters = .ok [] := by
  have h2 : clusters.zipIdx.filter (fun p => p.1.onAxis) = [] :=
    List.filter_eq_nil_iff.mpr fun p hp => by simp [h p.1 (List.fst_mem_of_mem_zipIdx hp)]
  rw [cylSingle_ok clusters fun c hc => by simp [h c hc], h2]
  rfl

theorem render_finite (R w d : ℝ) : 0 < DV.Gen.diffuse_smooth R w d ∧ DV.Gen.diffuse_smooth R w d < 1 :=
  DV.C03.profile_bounds R w d

theorem emulsion_render_in_range (fs : List (List ℚ)) (n : ℕ) :
    ∀ v ∈ DV.Render.emulsionField fs n, 0 ≤ v ∧ v ≤ 1 := DV.C03.emulsionField_range fs n

theorem tracking_total {τ : Type} [DecidableEq τ] {α : Type} [LinearOrder α] (m : DV.Track.Method α)
    (frames : List (τ × List Nat))
    (hm : (∃ ov, m = .overlap ov) ∨ ∃ dist maxd, m = .distance dist maxd false) :
    ∃ trs : List (DV.Track.Track τ), DV.Track.trackAll m frames = .ok trs := DV.C06.track_total m frames hm

theorem modes_in_1d_documented_error (modes : Nat) (hm : 0 < modes) (width refine : Bool) :
    DV.ClassSel.resultClass .cartesian 1 modes width refine = .error "ValueError" := by
  have := DV.C19.resultClass_spec .cartesian 1 modes width refine (fun _ => Or.inl rfl)
  simpa [DV.ClassSel.dimOf, hm] using this

theorem lengthscale_tracker_total {F T V : Type} (ls : F → Except String V) (frames : List (F × T)) :
    DV.Tracker.runLs ls frames = frames.map (fun fr => (fr.2, DV.Tracker.valueOrNaN (ls fr.1))) :=
  DV.C14.lengthscale_records_all ls frames

end DV.C09
