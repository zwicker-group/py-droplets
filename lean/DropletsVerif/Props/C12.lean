/-
  C12 — Sphere volume, surface and radius conversions are mutually consistent.
  All statements are about the definitions REGENERATED from droplets/tools/spherical.py,
  droplets/droplets.py and pde.grids.spherical (Generated/Spherical.lean), read at `ℝ`.
-/
import DropletsVerif.Lemmas.RealInst
import DropletsVerif.Generated.Spherical
import Mathlib.Tactic
import Mathlib.Analysis.Calculus.Deriv.Pow
import Mathlib.Analysis.Calculus.Deriv.Mul

namespace DV.C12
open DV.Gen

/-- the dimensions the library supports -/
def Dim (d : Nat) : Prop := d = 1 ∨ d = 2 ∨ d = 3

/-! ### all variants of each conversion are the same function (every input, every `dim`,
including the error branch) -/

theorem variants_agree_radius_from_volume (v : ℝ) (d : Nat) :
    radius_from_volume_compiled d v = radius_from_volume v d ∧
    radius_from_volume_nd v d = radius_from_volume v d :=
  ⟨rfl, rfl⟩

theorem variants_agree_volume_from_radius (r : ℝ) (d : Nat) :
    volume_from_radius_compiled d r = volume_from_radius_pde r d ∧
    volume_from_radius_nd r d = volume_from_radius_pde r d := by
  -- the two spellings differ only in `4π/3` against `(4/3)π`
  have h : volume_from_radius_nd r d = volume_from_radius_pde r d := by
    simp only [volume_from_radius_nd, volume_from_radius_pde, mul_div_right_comm]
  exact ⟨h, h⟩

theorem variants_agree_surface_from_radius (r : ℝ) (d : Nat) :
    surface_from_radius_compiled d r = surface_from_radius r d :=
  rfl

/-! ### closed forms: in a supported dimension `d` the volume is `c_d r^d`, the surface its derivative
`c_d d r^(d-1)`, the radius the `d`-th root of `v / c_d` -/

/-- volume `c_d` of the unit ball -/
noncomputable def unitVol (d : ℕ) : ℝ := if d = 1 then 2 else if d = 2 then Real.pi else 4 / 3 * Real.pi

theorem unitVol_pos (d : ℕ) : 0 < unitVol d := by
  unfold unitVol
  split_ifs <;> positivity

theorem Dim.ne_zero {d : ℕ} (hd : Dim d) : d ≠ 0 := by
  rcases hd with rfl | rfl | rfl <;> norm_num

theorem volume_eq {d : ℕ} (hd : Dim d) (r : ℝ) : volume_from_radius_pde r d = .ok (unitVol d * r ^ d) := by
  rcases hd with rfl | rfl | rfl <;> simp [volume_from_radius_pde, unitVol]

theorem radius_eq {d : ℕ} (hd : Dim d) (v : ℝ) :
    radius_from_volume v d = .ok ((v / unitVol d) ^ (d : ℝ)⁻¹) := by
  rcases hd with rfl | rfl | rfl
  · simp [radius_from_volume, unitVol]
  · simp [radius_from_volume, unitVol, Real.sqrt_eq_rpow]
  · simp [radius_from_volume, unitVol]
    congr 1
    field_simp

theorem surface_eq {d : ℕ} (hd : Dim d) (r : ℝ) :
    surface_from_radius r d = .ok (unitVol d * (d * r ^ (d - 1))) := by
  rcases hd with rfl | rfl | rfl <;> simp [surface_from_radius, unitVol] <;> ring

/-- the regenerated `radius_from_volume` inverts `r ↦ c_d r^d` on the non-negative reals -/
theorem radius_spec {d : ℕ} (hd : Dim d) {v : ℝ} (hv : 0 ≤ v) :
    ∃ r, radius_from_volume v d = .ok r ∧ 0 ≤ r ∧ unitVol d * r ^ d = v := by
  have hx : 0 ≤ v / unitVol d := div_nonneg hv (unitVol_pos d).le
  refine ⟨_, radius_eq hd v, Real.rpow_nonneg hx _, ?_⟩
  rw [Real.rpow_inv_natCast_pow hx hd.ne_zero, mul_div_cancel₀ _ (unitVol_pos d).ne']

theorem radius_volume_roundtrip (d : Nat) (hd : Dim d) (r : ℝ) (hr : 0 ≤ r) :
    (volume_from_radius_pde r d).bind (fun v => radius_from_volume v d) = .ok r := by
  rw [volume_eq hd]
  show radius_from_volume _ d = _
  rw [radius_eq hd, mul_div_cancel_left₀ _ (unitVol_pos d).ne', Real.pow_rpow_inv_natCast hr hd.ne_zero]

theorem volume_radius_roundtrip (d : Nat) (hd : Dim d) (v : ℝ) (hv : 0 ≤ v) :
    (radius_from_volume v d).bind (fun r => volume_from_radius_pde r d) = .ok v := by
  obtain ⟨r, hr, -, hrv⟩ := radius_spec hd hv
  rw [hr]
  show volume_from_radius_pde r d = _
  rw [volume_eq hd, hrv]

theorem radius_surface_roundtrip (d : Nat) (hd : d = 2 ∨ d = 3) (r : ℝ) (hr : 0 ≤ r) :
    (surface_from_radius r d).bind (fun s => radius_from_surface s d) = .ok r := by
  rcases hd with rfl | rfl
  · simp [surface_from_radius, radius_from_surface, Except.bind]
  · simp [surface_from_radius, radius_from_surface, Except.bind]
    exact Real.sqrt_sq hr

theorem surface_radius_roundtrip (d : Nat) (hd : d = 2 ∨ d = 3) (s : ℝ) (hs : 0 ≤ s) :
    (radius_from_surface s d).bind (fun r => surface_from_radius r d) = .ok s := by
  rcases hd with rfl | rfl
  · simp [surface_from_radius, radius_from_surface, Except.bind]
    exact mul_div_cancel₀ s (by positivity)
  · simp [surface_from_radius, radius_from_surface, Except.bind]
    rw [Real.sq_sqrt (by positivity), mul_div_cancel₀ s (by positivity)]

theorem surface_dim1_const (r : ℝ) : surface_from_radius r 1 = .ok 2 := by
  simp [surface_from_radius]

theorem surface_is_deriv (d : Nat) (hd : Dim d) :
    ∃ V S : ℝ → ℝ, (∀ x, volume_from_radius_pde x d = .ok (V x)) ∧
      (∀ x, surface_from_radius x d = .ok (S x)) ∧ ∀ x, HasDerivAt V (S x) x :=
  ⟨_, _, volume_eq hd, surface_eq hd, fun x => (hasDerivAt_pow d x).const_mul (unitVol d)⟩

/-! ### droplet properties follow from radius and position by these formulas -/

theorem droplet_volume_setter_getter (d : Nat) (hd : Dim d) (v : ℝ) (hv : 0 ≤ v) :
    (droplet_set_volume v d).bind (fun r => droplet_volume r d) = .ok v := by
  simpa [droplet_set_volume, droplet_volume] using volume_radius_roundtrip d hd v hv

theorem droplet_volume_eq (r : ℝ) (d : Nat) : droplet_volume r d = volume_from_radius_pde r d := by
  simp [droplet_volume]

theorem droplet_surface_eq (r : ℝ) (d : Nat) : droplet_surface_area r d = surface_from_radius r d := by
  simp [droplet_surface_area]

theorem droplet_curvature_eq (r : ℝ) : droplet_curvature r = .ok (1 / r) := by
  simp [droplet_curvature]

theorem droplet_bbox_eq (p r : ℝ) : droplet_bbox p r = .ok (p - r, p + r) := by
  simp [droplet_bbox]

theorem unsupported_dim (x : ℝ) (d : Nat) (hd : ¬ Dim d) :
    radius_from_volume x d = .error "NotImplementedError" ∧
    volume_from_radius_pde x d = .error "NotImplementedError" ∧
    surface_from_radius x d = .error "NotImplementedError" := by
  simp only [Dim, not_or] at hd
  simp [radius_from_volume, volume_from_radius_pde, surface_from_radius, hd]

theorem radius_from_surface_dim1 (s : ℝ) : radius_from_surface s 1 = .error "RuntimeError" := by
  simp [radius_from_surface]

/-- the hypotheses of the round trips can be met -/
example : Dim 3 ∧ (0 : ℝ) ≤ 2.5 := ⟨Or.inr (Or.inr rfl), by norm_num⟩

end DV.C12
