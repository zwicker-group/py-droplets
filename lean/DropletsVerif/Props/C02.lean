/-
  C02 — Each located droplet is one connected component under the grid's topology.
  Props/C02/Merge.lean: the periodic merging loop, the labeller and the pipeline from the image alone (Cartesian grids);
  Props/C02/Cyl.lean: the cylindrical routine and its known finding D21.
  Overlap removal on the resulting candidates is `DV.Overlap.loop`, whose theorems are C10's.
-/
import DropletsVerif.Props.C02.Merge
import DropletsVerif.Props.C02.Cyl
