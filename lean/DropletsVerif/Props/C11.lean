/-
  C11 — Merging droplets conserves volume and centre of mass.
  Statements are about `merge_copy / merge_inplace / merge_diffuse_*` REGENERATED from
  droplets/droplets.py (`_make_merge_data.merge_data` of SphericalDroplet and DiffuseDroplet,
  statement order preserved, `out ≡ drop1` aliasing replayed for the in-place variants) and the
  dimension-generic conversions regenerated from droplets/tools/spherical.py, read at `ℝ`.
  One coordinate of the position is modelled; "vector positions" below says why that covers them all.
-/
import DropletsVerif.Props.C12
import DropletsVerif.Generated.Merge

namespace DV.C11
open DV.Gen

def Dim (d : Nat) : Prop := d = 1 ∨ d = 2 ∨ d = 3

noncomputable def Vol (d : Nat) (r : ℝ) : ℝ :=
  if d = 1 then 2 * r else if d = 2 then Real.pi * r ^ 2 else 4 * Real.pi / 3 * r ^ 3

open DV.C12 (unitVol unitVol_pos)

/-- the same dimensions as C12's: what C12 proves of the conversions applies -/
theorem Dim.toC12 {d : Nat} (hd : Dim d) : C12.Dim d := hd

theorem Vol_eq {d : Nat} (hd : Dim d) (r : ℝ) : Vol d r = unitVol d * r ^ d := by
  rcases hd with rfl | rfl | rfl <;> simp [Vol, unitVol, mul_div_right_comm]

theorem vol_nd_eq {d : Nat} (hd : Dim d) (r : ℝ) : volume_from_radius_nd r d = .ok (Vol d r) := by
  rw [(C12.variants_agree_volume_from_radius r d).2, C12.volume_eq hd.toC12, Vol_eq hd]

theorem Vol_nonneg {d : Nat} (hd : Dim d) {r : ℝ} (hr : 0 ≤ r) : 0 ≤ Vol d r :=
  Vol_eq hd r ▸ mul_nonneg (unitVol_pos d).le (pow_nonneg hr d)

theorem Vol_pos {d : Nat} (hd : Dim d) {r : ℝ} (hr : 0 < r) : 0 < Vol d r :=
  Vol_eq hd r ▸ mul_pos (unitVol_pos d) (pow_pos hr d)

theorem Vol_zero {d : Nat} (hd : Dim d) : Vol d 0 = 0 := by
  rw [Vol_eq hd, zero_pow hd.toC12.ne_zero, mul_zero]

theorem Vol_inj {d : Nat} (hd : Dim d) {r r' : ℝ} (hr : 0 ≤ r) (hr' : 0 ≤ r') (h : Vol d r = Vol d r') : r = r' := by
  rw [Vol_eq hd, Vol_eq hd] at h
  exact (pow_left_inj₀ hr hr' hd.toC12.ne_zero).mp (mul_left_cancel₀ (unitVol_pos d).ne' h)

theorem vol_rad {d : Nat} (hd : Dim d) {v : ℝ} (hv : 0 ≤ v) :
    ∃ r, radius_from_volume_nd v d = .ok r ∧ 0 ≤ r ∧ Vol d r = v := by
  obtain ⟨r, hr, hr0, hrv⟩ := C12.radius_spec hd.toC12 hv
  exact ⟨r, hr, hr0, (Vol_eq hd r).trans hrv⟩

/-- unsupported dimension: the documented error, for every input -/
theorem merge_unsupported_dim (d : Nat) (hd : ¬ Dim d) (d1 d2 o : Rec ℝ) :
    merge_copy d d1 d2 o = .error "NotImplementedError" := by
  simp only [Dim, not_or] at hd
  simp [merge_copy, volume_from_radius_nd, Except.bind, hd]

theorem merge_copy_eq {d : Nat} (hd : Dim d) (d1 d2 o : Rec ℝ) :
    merge_copy d d1 d2 o = (radius_from_volume_nd (Vol d d1.radius + Vol d d2.radius) d).map fun r =>
      ⟨(Vol d d1.radius * d1.pos + Vol d d2.radius * d2.pos) / (Vol d d1.radius + Vol d d2.radius), r, o.width⟩ := by
  simp only [merge_copy, vol_nd_eq hd]
  show Except.bind (radius_from_volume_nd (Vol d d1.radius + Vol d d2.radius) d) _ = _
  cases radius_from_volume_nd (Vol d d1.radius + Vol d d2.radius) d <;> rfl

theorem merge_diffuse_eq (d : Nat) (d1 d2 o : Rec ℝ) :
    merge_diffuse_copy d d1 d2 o =
      (merge_copy d d1 d2 o).map fun s => { s with width := (d1.width + d2.width) / 2 } := by
  unfold merge_diffuse_copy merge_copy
  rcases volume_from_radius_nd d1.radius d with e | V1
  · rfl
  rcases volume_from_radius_nd d2.radius d with e | V2
  · rfl
  show Except.bind (radius_from_volume_nd (V1 + V2) d) _ =
    Except.map _ (Except.bind (radius_from_volume_nd (V1 + V2) d) _)
  cases radius_from_volume_nd (V1 + V2) d <;> rfl

/-- **Volume, centre and (spherical) width of the merged droplet.**  For every dimension 1–3,
all radii `≥ 0` and positions: the merge succeeds, the volume is the sum of the volumes, the
centre is the volume-weighted mean, and the (plain spherical) merge does not touch the width of
`out`. -/
theorem merge_copy_spec (d : Nat) (hd : Dim d) (d1 d2 o : Rec ℝ)
    (h1 : 0 ≤ d1.radius) (h2 : 0 ≤ d2.radius) :
    ∃ out, merge_copy d d1 d2 o = .ok out ∧ 0 ≤ out.radius ∧
      Vol d out.radius = Vol d d1.radius + Vol d d2.radius ∧
      out.pos = (Vol d d1.radius * d1.pos + Vol d d2.radius * d2.pos)
                  / (Vol d d1.radius + Vol d d2.radius) ∧
      out.width = o.width := by
  obtain ⟨r, hr, hr0, hrv⟩ := vol_rad hd (add_nonneg (Vol_nonneg hd h1) (Vol_nonneg hd h2))
  refine ⟨⟨_, r, o.width⟩, ?_, hr0, hrv, rfl, rfl⟩
  rw [merge_copy_eq hd, hr]
  rfl

/-- centre-of-mass form: `(V₁+V₂)·p_out = V₁p₁ + V₂p₂` when the total volume is positive -/
theorem merge_centre (d : Nat) (hd : Dim d) (d1 d2 o out : Rec ℝ)
    (h1 : 0 ≤ d1.radius) (h2 : 0 ≤ d2.radius)
    (hpos : 0 < Vol d d1.radius + Vol d d2.radius) (h : merge_copy d d1 d2 o = .ok out) :
    Vol d out.radius * out.pos = Vol d d1.radius * d1.pos + Vol d d2.radius * d2.pos := by
  obtain ⟨out', h', _, hv, hp, _⟩ := merge_copy_spec d hd d1 d2 o h1 h2
  cases h.symm.trans h'
  rw [hv, hp, mul_div_cancel₀ _ hpos.ne']

/-- diffuse droplets: same radius/centre, and the width is the mean of the widths -/
theorem merge_diffuse_spec (d : Nat) (hd : Dim d) (d1 d2 o : Rec ℝ)
    (h1 : 0 ≤ d1.radius) (h2 : 0 ≤ d2.radius) :
    ∃ out s, merge_diffuse_copy d d1 d2 o = .ok out ∧ merge_copy d d1 d2 o = .ok s ∧
      out.radius = s.radius ∧ out.pos = s.pos ∧ out.width = (d1.width + d2.width) / 2 := by
  obtain ⟨s, hs, -⟩ := merge_copy_spec d hd d1 d2 o h1 h2
  refine ⟨{ s with width := (d1.width + d2.width) / 2 }, s, ?_, hs, rfl, rfl, rfl⟩
  rw [merge_diffuse_eq, hs]
  rfl

/-- **In-place = out-of-place.**  Replaying the statements with `out` aliased to `drop1`
(the `inplace=True` call `_merge_data(self.data, other.data, out=self.data)`) yields the same
record as writing into a fresh record whose untouched fields start as `drop1`'s.  Holds for EVERY
input and dimension (including the error branch): it is a statement about statement order. -/
theorem merge_inplace_eq_copy (d : Nat) (d1 d2 o : Rec ℝ) :
    merge_inplace d d1 d2 o = merge_copy d d1 d2 d1 ∧
    merge_diffuse_inplace d d1 d2 o = merge_diffuse_copy d d1 d2 d1 := by
  constructor <;> rfl

/-- **Operand order does not matter.** -/
theorem merge_comm (d : Nat) (d1 d2 o : Rec ℝ) :
    merge_copy d d1 d2 o = merge_copy d d2 d1 o ∧
    merge_diffuse_copy d d1 d2 o = merge_diffuse_copy d d2 d1 o := by
  have h : merge_copy d d1 d2 o = merge_copy d d2 d1 o := by
    by_cases hd : Dim d
    · rw [merge_copy_eq hd, merge_copy_eq hd, add_comm (Vol d d1.radius), add_comm (Vol d d1.radius * _)]
    · rw [merge_unsupported_dim d hd, merge_unsupported_dim d hd]
  exact ⟨h, by rw [merge_diffuse_eq, merge_diffuse_eq, h, add_comm d1.width]⟩

/-! ### vector positions

The regenerated statement `out.position[...] = (V1 * drop1.position + V2 * drop2.position) / volume` acts on the position ARRAY; numpy applies it to
every coordinate with the same scalars `V1`, `V2`, `volume`.  The merge of droplets with positions in `ι → ℝ` is therefore the regenerated scalar
merge applied per coordinate (`ι` is any index set: that the code has as many coordinates as the `d` of the volume formula is not needed). -/

/-- the merged radius does not depend on the positions (so every coordinate of a vector merge carries the same radius) -/
theorem merge_radius_indep (d : Nat) (d1 d2 o d1' d2' o' out out' : Rec ℝ) (hr1 : d1.radius = d1'.radius) (hr2 : d2.radius = d2'.radius)
    (h : merge_copy d d1 d2 o = .ok out) (h' : merge_copy d d1' d2' o' = .ok out') : out.radius = out'.radius := by
  by_cases hd : Dim d
  · rw [merge_copy_eq hd] at h h'
    rw [← hr1, ← hr2] at h'
    cases hr : radius_from_volume_nd (Vol d d1.radius + Vol d d2.radius) d with
    | error e => rw [hr] at h; cases h
    | ok r => rw [hr] at h h'; cases h; cases h'; rfl
  · rw [merge_unsupported_dim d hd] at h; cases h

/-- **Merging conserves volume and the centre-of-mass VECTOR**: for positions with any index set of coordinates, dimension 1–3 and radii `≥ 0`
there are ONE radius `r` and a position vector `P` such that the regenerated merge yields `(P k, r)` in every coordinate `k`, with
`Vol r = Vol r₁ + Vol r₂` and `(Vol r₁ + Vol r₂) • P = Vol r₁ • p₁ + Vol r₂ • p₂`; the total volume is assumed positive. -/
theorem merge_vector_conserves {ι : Type} (d : Nat) (hd : Dim d) (p1 p2 : ι → ℝ) (r1 r2 w1 w2 : ℝ) (o : Rec ℝ)
    (h1 : 0 ≤ r1) (h2 : 0 ≤ r2) (hpos : 0 < Vol d r1 + Vol d r2) :
    ∃ (r : ℝ) (P : ι → ℝ), 0 ≤ r ∧ Vol d r = Vol d r1 + Vol d r2 ∧
      (∀ k, merge_copy d ⟨p1 k, r1, w1⟩ ⟨p2 k, r2, w2⟩ o = .ok ⟨P k, r, o.width⟩) ∧
      (∀ k, merge_diffuse_copy d ⟨p1 k, r1, w1⟩ ⟨p2 k, r2, w2⟩ o = .ok ⟨P k, r, (w1 + w2) / 2⟩) ∧
      (Vol d r1 + Vol d r2) • P = Vol d r1 • p1 + Vol d r2 • p2 := by
  obtain ⟨r, hr, hr0, hrv⟩ := vol_rad hd hpos.le
  have hc : ∀ k, merge_copy d ⟨p1 k, r1, w1⟩ ⟨p2 k, r2, w2⟩ o =
      .ok ⟨(Vol d r1 * p1 k + Vol d r2 * p2 k) / (Vol d r1 + Vol d r2), r, o.width⟩ := fun k => by
    rw [merge_copy_eq hd, hr]; rfl
  exact ⟨r, _, hr0, hrv, hc, fun k => by rw [merge_diffuse_eq, hc]; rfl, funext fun k => mul_div_cancel₀ _ hpos.ne'⟩

/-- non-vacuity: two 3-D droplets with different positions and radii -/
example : ∃ (r : ℝ) (P : Fin 3 → ℝ), Vol 3 r = Vol 3 1 + Vol 3 2 ∧
    (Vol 3 1 + Vol 3 2) • P = Vol 3 1 • (![0, 1, -2] : Fin 3 → ℝ) + Vol 3 2 • ![3, 0, 5] := by
  have hp : 0 < Vol 3 1 + Vol 3 2 := add_pos (Vol_pos (.inr (.inr rfl)) one_pos) (Vol_pos (.inr (.inr rfl)) two_pos)
  obtain ⟨r, P, _, hv, _, _, hc⟩ := merge_vector_conserves 3 (Or.inr (Or.inr rfl)) ![0, 1, -2] ![3, 0, 5] 1 2 0 0 ⟨0, 0, 0⟩ (by norm_num) (by norm_num) hp
  exact ⟨r, P, hv, hc⟩

/-- a zero-radius right operand leaves radius and position unchanged (positive left volume) -/
theorem merge_zero_right (d : Nat) (hd : Dim d) (d1 d2 o out : Rec ℝ)
    (h1 : 0 < d1.radius) (h2 : d2.radius = 0) (h : merge_copy d d1 d2 o = .ok out) :
    out.radius = d1.radius ∧ out.pos = d1.pos := by
  obtain ⟨out', h', hr0, hv, hp, -⟩ := merge_copy_spec d hd d1 d2 o h1.le h2.ge
  cases h.symm.trans h'
  rw [h2, Vol_zero hd, add_zero] at hv hp
  rw [zero_mul, add_zero] at hp
  exact ⟨Vol_inj hd hr0 h1.le hv, hp.trans (mul_div_cancel_left₀ _ (Vol_pos hd h1).ne')⟩

/-! ### repeated merging: total volume and first moment are conserved whatever the grouping -/

/-- a grouping of merges -/
inductive MTree where
  | leaf (d : Rec ℝ)
  | node (l r : MTree)

/-- evaluate a grouping with the regenerated `merge_copy` -/
noncomputable def MTree.eval (d : Nat) : MTree → Res (Rec ℝ)
  | .leaf x => .ok x
  | .node l r =>
    match MTree.eval d l, MTree.eval d r with
    | .ok a, .ok b => merge_copy d a b a
    | .error e, _ => .error e
    | _, .error e => .error e

def MTree.leaves : MTree → List (Rec ℝ)
  | .leaf x => [x]
  | .node l r => l.leaves ++ r.leaves

noncomputable def MTree.sumV (d : Nat) (t : MTree) : ℝ := (t.leaves.map (fun x => Vol d x.radius)).sum
noncomputable def MTree.sumVP (d : Nat) (t : MTree) : ℝ :=
  (t.leaves.map (fun x => Vol d x.radius * x.pos)).sum

/-- every merge has positive total volume (the documented precondition), every leaf a radius `≥ 0` -/
def MTree.Pos (d : Nat) : MTree → Prop
  | .leaf x => 0 ≤ x.radius
  | .node l r => l.Pos d ∧ r.Pos d ∧ 0 < MTree.sumV d l + MTree.sumV d r

/-- **Repeated merging conserves the total volume and the first moment**: a grouping all of whose merges have positive
total volume evaluates, to a droplet with the summed volume of the leaves and their summed volume × position. -/
theorem mergeTree_conserves (d : Nat) (hd : Dim d) (t : MTree) (ht : t.Pos d) :
    ∃ out, t.eval d = .ok out ∧ 0 ≤ out.radius ∧ Vol d out.radius = t.sumV d ∧
      Vol d out.radius * out.pos = t.sumVP d := by
  induction t with
  | leaf x => exact ⟨x, rfl, ht, by simp [MTree.sumV, MTree.leaves], by simp [MTree.sumVP, MTree.leaves]⟩
  | node l r ihl ihr =>
    obtain ⟨hl, hr, hpos⟩ := ht
    obtain ⟨a, ha, ha0, hav, hap⟩ := ihl hl
    obtain ⟨b, hb, hb0, hbv, hbp⟩ := ihr hr
    obtain ⟨out, ho, ho0, hov, _, _⟩ := merge_copy_spec d hd a b a ha0 hb0
    refine ⟨out, by simp [MTree.eval, ha, hb, ho], ho0, ?_, ?_⟩
    · simp only [MTree.sumV, MTree.leaves, List.map_append, List.sum_append] at *
      rw [hov, hav, hbv]
    · have := merge_centre d hd a b a out ha0 hb0 (by rw [hav, hbv]; exact hpos) ho
      simp only [MTree.sumVP, MTree.leaves, List.map_append, List.sum_append] at *
      rw [this, hap, hbp]

/-- hence two groupings of the same leaves agree on volume and centre of mass -/
theorem mergeTree_grouping_independent (d : Nat) (hd : Dim d) (s t : MTree)
    (hs : s.Pos d) (ht : t.Pos d) (hl : s.leaves.Perm t.leaves) :
    ∃ a b, s.eval d = .ok a ∧ t.eval d = .ok b ∧ Vol d a.radius = Vol d b.radius ∧
      Vol d a.radius * a.pos = Vol d b.radius * b.pos := by
  obtain ⟨a, ha, _, hav, hap⟩ := mergeTree_conserves d hd s hs
  obtain ⟨b, hb, _, hbv, hbp⟩ := mergeTree_conserves d hd t ht
  refine ⟨a, b, ha, hb, ?_, ?_⟩
  · rw [hav, hbv]; exact (hl.map _).sum_eq
  · rw [hap, hbp]; exact (hl.map _).sum_eq

/-- non-vacuity: a concrete tree of three unequal droplets satisfies `Pos` in 3-D -/
example : (MTree.node (.leaf ⟨0, 1, 1⟩) (.node (.leaf ⟨3, 0, 1⟩) (.leaf ⟨-2, 2, 2⟩))).Pos 3 := by
  have hd : Dim 3 := .inr (.inr rfl)
  simp [MTree.Pos, MTree.sumV, MTree.leaves, Vol_zero hd, Vol_pos hd, add_pos]

end DV.C11
