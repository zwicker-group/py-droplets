/-
  Half-cell arithmetic on a lattice line: the mean of the cell centres covered by a condition `(x − c)² < q`
  symmetric about `c` lies within half a cell of `c` (`lattice_run_mean`, `progression_mean`); radial grids (`C01_radial`).
-/
import Mathlib.Tactic

namespace DV.C01
open Finset

section lattice
variable {K : Type} [Field K] [LinearOrder K] [IsStrictOrderedRing K]

/-- centre of cell `i` on an axis with origin `o` and spacing `h` -/
def cellCentre (o h : K) (i : ℤ) : K := o + ((i : K) + 1 / 2) * h

/-- the cells `a, a+1, …, a+n−1` (n ≥ 1) are exactly the lattice run of the condition
`(x − c)² < q`: both ends satisfy it, their outer neighbours do not -/
structure IsRun (o h c q : K) (a : ℤ) (n : ℕ) : Prop where
  pos : 0 < n
  first_in : (cellCentre o h a - c) ^ 2 < q
  last_in : (cellCentre o h (a + n - 1) - c) ^ 2 < q
  before_out : q ≤ (cellCentre o h (a - 1) - c) ^ 2
  after_out : q ≤ (cellCentre o h (a + n) - c) ^ 2

def runSum (o h c : K) (a : ℤ) (n : ℕ) : K := ∑ j ∈ range n, (cellCentre o h (a + j) - c)

theorem runSum_eq (o h c : K) (a : ℤ) (n : ℕ) :
    runSum o h c a n = n * ((cellCentre o h a + cellCentre o h (a + n - 1)) / 2 - c) := by
  unfold runSum cellCentre
  induction n with
  | zero => rw [Finset.sum_range_zero, Nat.cast_zero, zero_mul]
  | succ n ih =>
    rw [Finset.sum_range_succ, ih]
    push_cast
    ring

theorem add_pos_of_sq_lt_sq {x y : K} (h : x ^ 2 < y ^ 2) (hxy : x < y) : 0 < x + y := by
  have : 0 < (y - x) * (x + y) := by linear_combination h
  exact (mul_pos_iff_of_pos_left (sub_pos.mpr hxy)).mp this

theorem sq_lt_of_between {x y z q : K} (hxy : x ≤ y) (hyz : y ≤ z) (hx : x ^ 2 < q) (hz : z ^ 2 < q) : y ^ 2 < q := by
  rcases le_total 0 y with h | h
  · exact (pow_le_pow_left₀ h hyz 2).trans_lt hz
  · have : y ^ 2 ≤ (-x) ^ 2 := sq_le_sq' (by rwa [neg_neg]) (h.trans (neg_nonneg.mpr (hxy.trans h)))
    exact (neg_sq x ▸ this).trans_lt hx

/-- **Half-cell lemma (one fibre).**  For any origin, spacing `h > 0`, centre `c` and threshold `q`:
the mean of the covered cell centres of a run differs from `c` by LESS than `h/2`. -/
theorem lattice_run_mean (o h c q : K) (hh : 0 < h) (a : ℤ) (n : ℕ) (hr : IsRun o h c q a n) :
    |runSum o h c a n| < n * (h / 2) := by
  obtain ⟨hpos, h1, h2, h3, h4⟩ := hr
  have hn : (1 : K) ≤ n := Nat.one_le_cast.mpr hpos
  have hn0 : (0 : K) < n := Nat.cast_pos.mpr hpos
  rw [runSum_eq, abs_mul, abs_of_pos hn0]
  refine mul_lt_mul_of_pos_left ?_ hn0
  have e3 : cellCentre o h (a - 1) = cellCentre o h a - h := by unfold cellCentre; push_cast; ring
  have e4 : cellCentre o h (a + n) = cellCentre o h (a + n - 1) + h := by unfold cellCentre; push_cast; ring
  have hab : cellCentre o h (a + n - 1) = cellCentre o h a + (n - 1) * h := by unfold cellCentre; push_cast; ring
  rw [e3] at h3
  rw [e4] at h4
  have h0 : 0 ≤ ((n : K) - 1) * h := mul_nonneg (sub_nonneg.mpr hn) hh.le
  generalize cellCentre o h (a + n - 1) = xb at *
  generalize cellCentre o h a = xa at *
  -- the first cell is inside and the cell after the last one is not, so the run cannot lie too far below `c`;
  -- symmetrically for the last cell and the cell before the first one
  have up := add_pos_of_sq_lt_sq (h1.trans_le h4) (by linear_combination hh + h0 - hab)
  have dn := add_pos_of_sq_lt_sq (x := c - xb) (y := c - (xa - h))
    (by rw [sub_sq_comm c xb, sub_sq_comm c]; exact h2.trans_le h3) (by linear_combination hh + h0 - hab)
  exact abs_lt.mpr ⟨by linear_combination (1 / 2) * up, by linear_combination (1 / 2) * dn⟩

/-- **Half-cell bound over a family of fibres (one axis, any spacing).**  Given finitely many fibres, each
the lattice run of a condition `(x − c)² < q_t`, whatever `q_t` is (a hypothesis here; for a ball the fibre
over the other coordinates `t` has `q_t = R² − Σ_{other axes}(…)²`), the sum of the offsets over ALL their
cells is smaller than (number of cells) · h/2, i.e. the centre of mass lies within half a cell of `c` along
this axis.  For the model's droplet this is `ball_offset_mean`, which goes through `fibre_mean` instead. -/
theorem lattice_fibres_com {ι : Type} (s : Finset ι) (hs : s.Nonempty) (o h c : K) (hh : 0 < h)
    (q : ι → K) (a : ι → ℤ) (n : ι → ℕ) (hr : ∀ t ∈ s, IsRun o h c (q t) (a t) (n t)) :
    |∑ t ∈ s, runSum o h c (a t) (n t)| < (∑ t ∈ s, (n t : K)) * (h / 2) := by
  rw [Finset.sum_mul]
  exact (Finset.abs_sum_le_sum_abs _ _).trans_lt
    (Finset.sum_lt_sum_of_nonempty hs fun t ht => lattice_run_mean o h c (q t) hh (a t) (n t) (hr t ht))

/-- in the form the code uses it: centre of mass `= c + (Σ offsets)/N` with `|·| < h/2` -/
theorem lattice_com_within_half_cell {ι : Type} (s : Finset ι) (hs : s.Nonempty) (o h c : K) (hh : 0 < h)
    (q : ι → K) (a : ι → ℤ) (n : ι → ℕ) (hr : ∀ t ∈ s, IsRun o h c (q t) (a t) (n t)) :
    |(∑ t ∈ s, runSum o h c (a t) (n t)) / (∑ t ∈ s, (n t : K))| < h / 2 := by
  have hN : 0 < ∑ t ∈ s, (n t : K) :=
    Finset.sum_pos (fun t ht => by exact_mod_cast (hr t ht).pos) hs
  rw [abs_div, abs_of_pos hN, div_lt_iff₀ hN]
  simpa only [mul_comm] using lattice_fibres_com s hs o h c hh q a n hr

/-- **Radial grids: the located radius is within half a radial spacing.**  The droplet of radius
`R` centred at the origin covers exactly the cells `0 … m−1` (cell `m−1` inside, cell `m` outside);
the code returns the outer edge `m·dr` of the last covered cell. -/
theorem C01_radial (dr R : K) (hdr : 0 < dr) (m : ℕ)
    (hin : m = 0 ∨ ((m : K) - 1 + 1 / 2) * dr < R) (hout : R ≤ ((m : K) + 1 / 2) * dr) (hR : 0 < R) :
    |(m : K) * dr - R| ≤ dr / 2 := by
  refine abs_le.mpr ⟨by linear_combination hout, ?_⟩
  rcases hin with rfl | h1
  · rw [Nat.cast_zero, zero_mul]; linear_combination hR + (1 / 2) * hdr
  · linear_combination h1

end lattice

/-- non-vacuity: spacing 1, origin 0, centre 2.3, q = 1.7² — the run is cells 1,2,3 (centres 1.5,
2.5, 3.5), cells 0 and 4 are outside; the mean 2.5 is within 0.5 of 2.3 -/
example : IsRun (0 : ℚ) 1 (23 / 10) ((17 / 10) ^ 2) 1 3 := by
  constructor <;> norm_num [cellCentre]

/-- **all points of an arithmetic progression inside a ball**: if `J` is exactly the set of integers `j`
with `(u0 + j h)² < q`, the mean of those points is within half a step of the centre -/
theorem progression_mean (u0 h q : ℚ) (hh : 0 < h) (J : Finset ℤ) (hJ : ∀ j, j ∈ J ↔ (u0 + j * h) ^ 2 < q)
    (hne : J.Nonempty) : |∑ j ∈ J, (u0 + j * h)| < J.card * (h / 2) := by
  set a := J.min' hne
  set b := J.max' hne
  have ha : (u0 + a * h) ^ 2 < q := (hJ a).mp (J.min'_mem hne)
  have hb : (u0 + b * h) ^ 2 < q := (hJ b).mp (J.max'_mem hne)
  -- `J` is the run `a, …, b`
  have mono : ∀ {i j : ℤ}, i ≤ j → u0 + i * h ≤ u0 + j * h := fun hij =>
    add_le_add_right (mul_le_mul_of_nonneg_right (Int.cast_le.mpr hij) hh.le) u0
  have hmem : ∀ j, j ∈ J ↔ a ≤ j ∧ j ≤ b := fun j =>
    ⟨fun hj => ⟨J.min'_le j hj, J.le_max' j hj⟩, fun ⟨h1, h2⟩ => (hJ j).mpr (sq_lt_of_between (mono h1) (mono h2) ha hb)⟩
  have hab := ((hmem a).mp (J.min'_mem hne)).2
  obtain ⟨n, hn⟩ : ∃ n : ℕ, (n : ℤ) = b - a + 1 := ⟨(b - a + 1).toNat, Int.toNat_of_nonneg (by omega)⟩
  have hJeq : J = (range n).image fun k : ℕ => a + (k : ℤ) := by
    ext j
    simp only [hmem, mem_image, mem_range]
    exact ⟨fun ⟨h1, h2⟩ => ⟨(j - a).toNat, by omega, by omega⟩, by rintro ⟨k, hk, rfl⟩; omega⟩
  have hinj : Set.InjOn (fun k : ℕ => a + (k : ℤ)) (range n : Set ℕ) := fun x _ y _ hxy => by simpa using hxy
  have cc : ∀ i : ℤ, cellCentre (u0 - h / 2) h i - 0 = u0 + i * h := fun i => by unfold cellCentre; ring
  have hout : ∀ j, (j < a ∨ b < j) → q ≤ (u0 + j * h) ^ 2 := fun j hj =>
    not_lt.mp fun hlt => by have := (hmem j).mp ((hJ j).mpr hlt); omega
  have hrun : IsRun (u0 - h / 2) h 0 q a n := by
    refine ⟨by omega, ?_, ?_, ?_, ?_⟩ <;> rw [cc]
    · exact ha
    · rwa [show a + (n : ℤ) - 1 = b by omega]
    · exact hout _ (Or.inl (by omega))
    · exact hout _ (Or.inr (by omega))
  have := lattice_run_mean (u0 - h / 2) h 0 q hh a n hrun
  rw [hJeq, sum_image hinj, card_image_of_injOn hinj, card_range]
  simpa only [runSum, cc, Int.cast_add, Int.cast_natCast] using this

/-- a bound on the sum of the affine images `α g + β` over a non-empty set, as a bound on the affine image of the mean -/
theorem abs_affine_mean_lt {ι : Type} {S : Finset ι} (hS : S.Nonempty) (g : ι → ℚ) (α β ε : ℚ)
    (h : |∑ c ∈ S, (α * g c + β)| < S.card * ε) : |α * ((∑ c ∈ S, g c) / S.card) + β| < ε := by
  have hN : (0 : ℚ) < S.card := Nat.cast_pos.mpr hS.card_pos
  rw [sum_add_distrib, ← mul_sum, sum_const, nsmul_eq_mul] at h
  rw [show α * ((∑ c ∈ S, g c) / S.card) + β = (α * ∑ c ∈ S, g c + S.card * β) / S.card by field_simp,
    abs_div, abs_of_pos hN, div_lt_iff₀ hN, mul_comm ε]
  exact h

end DV.C01
