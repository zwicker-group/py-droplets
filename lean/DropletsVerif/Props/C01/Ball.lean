/-
  One droplet in the model pipeline rendering (C03) → labelling → periodic merging (C02): one cluster, the exact number of
  covered cells, position within half a cell.

  The cells a droplet covers form one component of the grid's topology (`ball_connected`, from the descent of
  Lemmas/BallConn.lean).  Along one axis their periodic offsets from the centre, unwrapped, are all the points of an
  arithmetic progression inside an interval, so their mean is below half a cell (`fibre_mean`, from `progression_mean`),
  and so is the mean over the whole droplet (`ball_offset_mean`).  The wrap counts of the offsets are a consistent lift
  of the component (`comp_lift_consistent`), so C02's `C02_position_explicit` gives the stored position as centre + mean
  offset.  All of this is stated for a component of an arbitrary image that is a droplet's set of cells (`CompIsBall`);
  a droplet alone is the case `mask = ballMask`.
-/
import DropletsVerif.Props.C02.Merge
import DropletsVerif.Lemmas.BallConn
import DropletsVerif.Props.C01.HalfCell

namespace DV.C01
open Finset DV.Merge DV.MergeInv DV.Label DV.LabelInv DV.GridGeom DV.Render DV.BallConn DV.WrapDiff DV.C02 Relation

variable (axes : List Axis) (ctr : List ℚ)

/-! ### the covered cells form one component -/

/-- the sharp image of ONE droplet (centre `ctr`, radius `R`) over the flat cells of the grid:
exactly the rendering of C03 (`DV.Render.inside`) -/
def ballMask (R : ℚ) (c : ℕ) : Bool :=
  decide (c < numCells (shapeOf axes)) && inside axes ctr R (unflat (shapeOf axes) c)

theorem ballMask_iff {axes ctr} {R : ℚ} {c : ℕ} :
    ballMask axes ctr R c = true ↔ c < numCells (shapeOf axes) ∧ D axes ctr c < R * R := by
  unfold ballMask inside D
  simp

theorem ballMask_lt {axes ctr} {R : ℚ} {c : ℕ} (hc : ballMask axes ctr R c = true) : c < numCells (shapeOf axes) :=
  (ballMask_iff.mp hc).1

theorem path_conn {axes ctr} (R : ℚ) {a b : ℕ} (hp : Path axes ctr a b) (ha : ballMask axes ctr R a = true) :
    ballMask axes ctr R b = true ∧ GridConn (shapeOf axes) (perOf axes) (ballMask axes ctr R) a b := by
  induction hp with
  | refl => exact ⟨ha, EqvGen.refl _⟩
  | tail _ hstep ih =>
    obtain ⟨hb, hconn⟩ := ih
    rename_i b c _
    obtain ⟨_, hc, hadj, hle⟩ := hstep
    have hmc : ballMask axes ctr R c = true := by
      rw [ballMask_iff] at hb ⊢
      exact ⟨hc, lt_of_le_of_lt hle hb.2⟩
    refine ⟨hmc, EqvGen.trans _ _ _ hconn ?_⟩
    -- `Adj` is `FaceAdj` one way or the other
    rcases hadj with hf | hf
    · exact EqvGen.rel _ _ ⟨hb, hmc, Or.inr hf⟩
    · exact EqvGen.symm _ _ (EqvGen.rel _ _ ⟨hmc, hb, Or.inr hf⟩)

/-- **The cells covered by a droplet form ONE component of the grid's topology** — for every grid
(any dimension, anisotropic spacing, any mix of periodic axes), every centre (inside or outside the box)
and every radius (`BallConn.common_descent`: the descent to the nearest cell does not leave the droplet). -/
theorem ball_connected (h : GridWF axes ctr) (R : ℚ) {c1 c2 : ℕ}
    (m1 : ballMask axes ctr R c1 = true) (m2 : ballMask axes ctr R c2 = true) :
    GridConn (shapeOf axes) (perOf axes) (ballMask axes ctr R) c1 c2 := by
  obtain ⟨t, _, p1, p2⟩ := common_descent h (ballMask_lt m1) (ballMask_lt m2)
  exact EqvGen.trans _ _ _ (path_conn R p1 m1).2 (EqvGen.symm _ _ (path_conn R p2 m2).2)

/-! ### sums over the cells `List.range n` of the model as `Finset` sums -/

theorem list_filter_sum {M : Type} [AddCommMonoid M] (n : ℕ) (p : ℕ → Bool) (f : ℕ → M) :
    (((List.range n).filter p).map f).sum = ∑ c ∈ (Finset.range n).filter (fun c => p c = true), f c := by
  rw [← List.sum_toFinset f ((List.nodup_range).filter _), List.toFinset_filter, List.toFinset_range]

theorem list_filter_card (n : ℕ) (p : ℕ → Bool) :
    ((List.range n).filter p).length = ((Finset.range n).filter (fun c => p c = true)).card := by
  rw [← List.toFinset_card_of_nodup ((List.nodup_range).filter _), List.toFinset_filter, List.toFinset_range]

theorem mem_filter_range {N : ℕ} {p : ℕ → Bool} (h : ∀ c, p c = true → c < N) (c : ℕ) :
    c ∈ (Finset.range N).filter (fun c => p c = true) ↔ p c = true := by
  rw [Finset.mem_filter, Finset.mem_range, and_iff_right_iff_imp]
  exact h c

/-! ### one axis: unwrapping cells around the centre, the half-cell bound along a grid line -/

/-- the droplet is resolved along this axis (radius bound `ρ`): on a periodic axis it does not reach around
the box, on a non-periodic axis it lies inside the box -/
structure AxisResolved (a : Axis) (c ρ : ℚ) : Prop where
  nonneg : 0 ≤ ρ
  per : a.periodic = true → 2 * (ρ + a.dx) ≤ a.length
  box : a.periodic = false → a.lo + ρ ≤ c ∧ c + ρ ≤ a.lo + a.length

/-- folding a lattice index into the box along one axis: the cell `k = n mod N` has the periodic difference `latOff a c n`, the
unwrapped offset of lattice point `n`, and `unwrapIdx a c k = n`; the statement writes both of them out -/
theorem axis_fold (a : Axis) (hwf : Axis.WF a) (c ρ : ℚ) (hres : AxisResolved a c ρ) (n : ℤ)
    (hδ : |a.lo + ((n : ℚ) + 1 / 2) * a.dx - c| < ρ) :
    let k := (n % (a.n : ℤ)).toNat
    k < a.n ∧ a.diff c k = a.lo + ((n : ℚ) + 1 / 2) * a.dx - c ∧
      (k : ℤ) - (if a.periodic then ((a.centre k - c + a.length / 2) / a.length).floor else 0) * (a.n : ℤ) = n := by
  intro k
  have hN : (0 : ℤ) < a.n := by exact_mod_cast hwf.n_pos
  have hdx := hwf.dx_pos
  have hkz : (k : ℤ) = n % (a.n : ℤ) := Int.toNat_of_nonneg (Int.emod_nonneg _ hN.ne')
  have hklt : k < a.n := by exact_mod_cast hkz ▸ Int.emod_lt_of_pos n hN
  -- it is enough that unwrapping cell `k` gives `n` back
  suffices hu : unwrapIdx a c k = n from ⟨hklt, by rw [diff_eq_latOff, hu]; rfl, hu⟩
  change |latOff a c n| < ρ at hδ
  obtain ⟨hd1, hd2⟩ := abs_lt.mp hδ
  refine unwrapIdx_unique c hwf (k := -(n / (a.n : ℤ))) (by linear_combination hkz + Int.emod_add_mul_ediv n (a.n : ℤ))
    (fun hper => ?_) fun hper => ?_
  · -- the offset is within `ρ` of a centre at least `ρ` inside the box, so `0 ≤ n < N` already
    obtain ⟨hb1, hb2⟩ := hres.box hper
    unfold latOff at hd1 hd2
    unfold Axis.length at hb2
    have h0 := (mul_pos_iff_of_pos_right hdx).mp (by linarith only [hd1, hb1] : 0 < ((n : ℚ) + 1 / 2) * a.dx)
    have h1 := lt_of_mul_lt_mul_right (by linarith only [hd2, hb2] : ((n : ℚ) + 1 / 2) * a.dx < a.n * a.dx) hdx.le
    have hn0 : -1 < n := by exact_mod_cast (by linarith only [h0] : (-1 : ℚ) < n)
    have hn1 : n < a.n := by exact_mod_cast (by linarith only [h1] : (n : ℚ) < a.n)
    rw [Int.ediv_eq_zero_of_lt (by omega) hn1, neg_zero]
  · -- within `ρ` of the centre is inside the fundamental range
    have hρ := hres.per hper
    exact ⟨by linarith only [hd1, hρ, hdx], by linarith only [hd2, hρ, hdx]⟩

/-- **Half-cell bound along one fibre of the grid** (periodic or not): the cells of one grid line whose
(periodic) offset `u` satisfies `u² < q` have offsets whose mean is smaller than half a cell. -/
theorem fibre_mean (a : Axis) (hwf : Axis.WF a) (c q ρ : ℚ) (hq : q ≤ ρ ^ 2) (hres : AxisResolved a c ρ)
    (hne : ((Finset.range a.n).filter fun i => (a.diff c i) ^ 2 < q).Nonempty) :
    |∑ i ∈ (Finset.range a.n).filter (fun i => (a.diff c i) ^ 2 < q), a.diff c i| <
      (((Finset.range a.n).filter fun i => (a.diff c i) ^ 2 < q).card : ℚ) * (a.dx / 2) := by
  set F := (Finset.range a.n).filter fun i => (a.diff c i) ^ 2 < q
  -- unwrapped around `c`, the cells of `F` are exactly the lattice indices whose offset satisfies the condition
  have hinj : Set.InjOn (unwrapIdx a c) F := fun i hi i' hi' h => by
    rw [← unwrapIdx_emod a c (mem_range.mp (mem_filter.mp hi).1), h, unwrapIdx_emod a c (mem_range.mp (mem_filter.mp hi').1)]
  have hM : ∀ m : ℤ, m ∈ F.image (unwrapIdx a c) ↔ (latOff a c 0 + m * a.dx) ^ 2 < q := by
    intro m
    rw [← latOff_eq]
    constructor
    · intro h
      obtain ⟨i, hi, rfl⟩ := mem_image.mp h
      rw [← diff_eq_latOff]
      exact (mem_filter.mp hi).2
    · intro hm
      obtain ⟨hk, hd, hu⟩ := axis_fold a hwf c ρ hres m (abs_lt_of_sq_lt_sq (hm.trans_le hq) hres.nonneg)
      exact mem_image.mpr ⟨_, mem_filter.mpr ⟨mem_range.mpr hk, by rw [hd]; exact hm⟩, hu⟩
  have := progression_mean (latOff a c 0) a.dx q hwf.dx_pos _ hM (hne.image _)
  rw [sum_image hinj, card_image_of_injOn hinj] at this
  simpa only [← latOff_eq, ← diff_eq_latOff] using this

theorem in_ball_abs {axes ctr} (h : GridWF axes ctr) {R : ℚ} (hR : 0 ≤ R) {c : ℕ} (hc : ballMask axes ctr R c = true)
    {k : ℕ} (hk : k < axes.length) : |U axes ctr c k| < R :=
  abs_lt_of_sq_lt_sq (by rw [sq, sq]; exact (U_sq_le_D h c hk).trans_lt (ballMask_iff.mp hc).2) hR

/-- the grid line through `c` along axis `k`, named by its cell with coordinate 0 -/
def lineOf (k c : ℕ) : ℕ := setCoord (shapeOf axes) c k 0

theorem setCoord_lineOf {axes ctr} (h : GridWF axes ctr) {c : ℕ} (hc : c < numCells (shapeOf axes)) {k : ℕ} (hk : k < axes.length) :
    setCoord (shapeOf axes) (lineOf axes k c) k (coordOf (shapeOf axes) c k) = c := by
  have hpos := shape_pos h
  unfold lineOf
  rw [setCoord_setCoord _ hpos c k (by rw [shape_getD hk]; exact (axis_wf h hk).n_pos),
    setCoord_self _ hpos hc (by rwa [shape_length])]

/-- **Half-cell bound for a droplet, along one axis.**  If the droplet is resolved along axis `k`, the
(periodic) offsets along `k` of all covered cell centres have a mean smaller than half a cell. -/
theorem ball_offset_mean (h : GridWF axes ctr) (R : ℚ) {k : ℕ} (hk : k < axes.length)
    (hres : AxisResolved (axes.getD k default) (ctr.getD k 0) R)
    (hne : ((Finset.range (numCells (shapeOf axes))).filter fun c => ballMask axes ctr R c = true).Nonempty) :
    |∑ c ∈ (Finset.range (numCells (shapeOf axes))).filter (fun c => ballMask axes ctr R c = true), U axes ctr c k| <
      (((Finset.range (numCells (shapeOf axes))).filter fun c => ballMask axes ctr R c = true).card : ℚ)
        * ((axes.getD k default).dx / 2) := by
  set S := (Finset.range (numCells (shapeOf axes))).filter fun c => ballMask axes ctr R c = true with hS
  set a := axes.getD k default with ha
  have hwf : Axis.WF a := axis_wf h hk
  have hpos := shape_pos h
  have hv : ∀ {i}, i < a.n → i < (shapeOf axes).getD k 1 := fun hi => by rwa [shape_getD hk]
  have hSmem : ∀ c, c ∈ S ↔ ballMask axes ctr R c = true := mem_filter_range fun _ => ballMask_lt
  -- one grid line: its covered cells are the cells `i` of the axis with `diff² < q`, `q` what the other axes leave of `R²`
  have hline : ∀ t ∈ S.image (lineOf axes k),
      |∑ c ∈ S.filter (fun c => lineOf axes k c = t), U axes ctr c k| <
        ((S.filter fun c => lineOf axes k c = t).card : ℚ) * (a.dx / 2) := by
    intro t ht
    obtain ⟨c0, hc0S, rfl⟩ := Finset.mem_image.mp ht
    set t := lineOf axes k c0 with ht
    set q := R * R - (D axes ctr t - U axes ctr t k * U axes ctr t k) with hq
    set F := (Finset.range a.n).filter fun i => (a.diff (ctr.getD k 0) i) ^ 2 < q with hF
    have hcell : ∀ i, i < a.n → (ballMask axes ctr R (setCoord (shapeOf axes) t k i) = true ↔ (a.diff (ctr.getD k 0) i) ^ 2 < q) ∧
        U axes ctr (setCoord (shapeOf axes) t k i) k = a.diff (ctr.getD k 0) i ∧
        coordOf (shapeOf axes) (setCoord (shapeOf axes) t k i) k = i := by
      intro i hi
      obtain ⟨s1, s2⟩ := h.setCoord_spec t hk hi
      have m4 := (coord_of_set h hk s2).1
      refine ⟨?_, by rw [U_eq, m4], m4⟩
      rw [ballMask_iff, D_set h hk s2, hq, and_iff_right s1, sq]
      constructor <;> intro h' <;> linarith only [h']
    have himg : S.filter (fun c => lineOf axes k c = t) = F.image fun i => setCoord (shapeOf axes) t k i := by
      ext c
      simp only [Finset.mem_filter, Finset.mem_image, Finset.mem_range, hSmem, hF]
      constructor
      · rintro ⟨hc, hct⟩
        have hi := coord_lt h c hk
        have hcs := setCoord_lineOf h (ballMask_lt hc) hk
        rw [hct] at hcs
        exact ⟨_, ⟨hi, (hcell _ hi).1.mp (hcs.symm ▸ hc)⟩, hcs⟩
      · rintro ⟨i, ⟨hin, hiq⟩, rfl⟩
        exact ⟨(hcell i hin).1.mpr hiq, (setCoord_setCoord _ hpos t k (hv hin) 0).trans (setCoord_setCoord _ hpos c0 k (hv hwf.n_pos) 0)⟩
    have hinj : Set.InjOn (fun i => setCoord (shapeOf axes) t k i) F := fun i hi i' hi' hii => by
      have e := (hcell i (Finset.mem_range.mp (Finset.mem_filter.mp hi).1)).2.2
      rwa [show setCoord (shapeOf axes) t k i = setCoord (shapeOf axes) t k i' from hii,
        (hcell i' (Finset.mem_range.mp (Finset.mem_filter.mp hi').1)).2.2, eq_comm] at e
    have hFne : F.Nonempty := Finset.image_nonempty.mp (himg ▸ (⟨c0, Finset.mem_filter.mpr ⟨hc0S, rfl⟩⟩ :
      (S.filter fun c => lineOf axes k c = t).Nonempty))
    rw [himg, Finset.sum_image hinj, Finset.card_image_of_injOn hinj,
      Finset.sum_congr rfl fun i hi => (hcell i (Finset.mem_range.mp (Finset.mem_filter.mp hi).1)).2.1]
    refine fibre_mean a hwf _ q R ?_ hres hFne
    rw [hq, sq]
    linarith only [U_sq_le_D h t hk]
  have hmaps : ∀ c ∈ S, lineOf axes k c ∈ S.image (lineOf axes k) := fun c hc => Finset.mem_image_of_mem _ hc
  rw [← Finset.sum_fiberwise_of_maps_to hmaps, Finset.card_eq_sum_card_fiberwise hmaps]
  push_cast
  rw [Finset.sum_mul]
  exact (Finset.abs_sum_le_sum_abs _ _).trans_lt (Finset.sum_lt_sum_of_nonempty (hne.image _) hline)

/-! ### wrap counts: the integer lift that unwraps a resolved droplet -/

/-- number of periods by which the periodic difference of cell `c` along axis `a` was shifted -/
def wrapCount (c a : ℕ) : ℤ :=
  let ax := axes.getD a default
  if ax.periodic then ((ax.centre (coordOf (shapeOf axes) c a) - ctr.getD a 0 + ax.length / 2) / ax.length).floor else 0

theorem wrapCount_eq (c a : ℕ) :
    wrapCount axes ctr c a = axisWrap (axes.getD a default) (ctr.getD a 0) (coordOf (shapeOf axes) c a) := rfl

theorem wrapCount_nonper {axes ctr} {c a : ℕ} (hp : (axes.getD a default).periodic = false) : wrapCount axes ctr c a = 0 := by
  rw [wrapCount_eq, axisWrap, hp]; rfl

/-- the integer lift that unwraps the droplet: minus the wrap count -/
def ballLift (c a : ℕ) : ℤ := - wrapCount axes ctr c a

theorem U_eq_unwrapped (c a : ℕ) :
    U axes ctr c a = (axes.getD a default).centre (coordOf (shapeOf axes) c a) - ctr.getD a 0
      - (wrapCount axes ctr c a : ℚ) * (axes.getD a default).length := by
  rw [U_eq, diff_eq_sub_wrap, wrapCount_eq]

/-- the droplet is resolved on the periodic axes: it does not reach around the box and meet itself -/
structure Resolved (R : ℚ) : Prop where
  R_nonneg : 0 ≤ R
  per : ∀ k, k < axes.length → (axes.getD k default).periodic = true →
    2 * (R + (axes.getD k default).dx) ≤ (axes.getD k default).length

/-- **wrap counts of face neighbours inside a resolved droplet**: seen from the centre the neighbour is one cell away
(`|s| ≤ 1`); its index jumps by `t` periods on top of that, and so does its wrap count -/
theorem wrapCount_face {axes ctr} (h : GridWF axes ctr) {R : ℚ} (hres : Resolved axes R) {ax l hh : ℕ} (hk : ax < axes.length)
    (ml : ballMask axes ctr R l = true) (s t : ℤ) (hs : |s| ≤ 1)
    (hper : (axes.getD ax default).periodic = false → t = 0)
    (hco : (coordOf (shapeOf axes) hh ax : ℤ) - coordOf (shapeOf axes) l ax = s + t * (axes.getD ax default).n)
    (hoth : ∀ j, j ≠ ax → coordOf (shapeOf axes) hh j = coordOf (shapeOf axes) l j) (a : ℕ) :
    wrapCount axes ctr hh a = wrapCount axes ctr l a + t * delta a ax := by
  by_cases ha : a = ax
  · subst ha
    rw [show delta a a = 1 from if_pos rfl, mul_one]
    by_cases hp : (axes.getD a default).periodic = true
    · exact sub_eq_iff_eq_add'.mp
        (axisWrap_sub _ (axis_wf h hk) hp (hres.per a hk hp) (in_ball_abs h hres.R_nonneg ml hk) s t hs hco)
    · have hp' : (axes.getD a default).periodic = false := by simpa using hp
      rw [wrapCount_nonper hp', wrapCount_nonper hp', hper hp']; rfl
  · rw [show delta a ax = 0 from if_neg ha, mul_zero, add_zero]
    unfold wrapCount
    rw [hoth a ha]

theorem wrapCount_stepUp {axes ctr} (h : GridWF axes ctr) {R : ℚ} (hres : Resolved axes R) {ax l hh : ℕ}
    (hs : StepUp (shapeOf axes) ax l hh) (ml : ballMask axes ctr R l = true) (a : ℕ) :
    wrapCount axes ctr hh a = wrapCount axes ctr l a := by
  obtain ⟨_, _, hax, hset, _⟩ := hs
  have hk : ax < axes.length := shape_length ▸ hax
  obtain ⟨c1, c2⟩ := coord_of_set h hk hset
  simpa using wrapCount_face h hres hk ml 1 0 (by norm_num) (fun _ => rfl) (by rw [c1]; push_cast; ring) c2 a

theorem wrapCount_across {axes ctr} (h : GridWF axes ctr) {R : ℚ} (hres : Resolved axes R) {ax l hh : ℕ}
    (hs : Across (shapeOf axes) (perOf axes) ax l hh) (ml : ballMask axes ctr R l = true)
    (a : ℕ) : wrapCount axes ctr hh a = wrapCount axes ctr l a + delta a ax := by
  obtain ⟨_, _, hax, hper, h0, hset⟩ := hs
  have hk : ax < axes.length := shape_length ▸ hax
  obtain ⟨c1, c2⟩ := coord_of_set h hk hset
  rw [per_getD hk] at hper
  rw [shape_getD hk] at c1
  simpa using wrapCount_face h hres hk ml (-1) 1 (by norm_num) (fun hp => by rw [hper] at hp; cases hp)
    (by rw [c1, h0, Nat.cast_sub (axis_wf h hk).n_pos]; push_cast; ring) c2 a

/-! ### a component of an image that is a droplet's set of cells -/

/-- in the image `mask`, the component of the cell `c0` under the grid's topology is exactly the set of
cells covered by the droplet (centre `ctr`, radius `R`) -/
structure CompIsBall (mask : ℕ → Bool) (c0 : ℕ) (R : ℚ) : Prop where
  sub : ∀ c, ballMask axes ctr R c = true → mask c = true
  bound : ∀ c, mask c = true → c < numCells (shapeOf axes)
  comp : ∀ c, mask c = true → (GridConn (shapeOf axes) (perOf axes) mask c0 c ↔ ballMask axes ctr R c = true)
  c0in : ballMask axes ctr R c0 = true

/-- the droplet is resolved along every axis -/
def FullyResolved (R : ℚ) : Prop :=
  ∀ k, k < axes.length → AxisResolved (axes.getD k default) (ctr.getD k 0) R

theorem FullyResolved.resolved {R : ℚ} (hr : FullyResolved axes ctr R) (hd : 0 < axes.length) : Resolved axes R :=
  ⟨(hr 0 hd).nonneg, fun k hk hp => (hr k hk).per hp⟩

section comp
variable {axes ctr}
variable {mask : ℕ → Bool} {c0 : ℕ} {R : ℚ}

theorem ball_compIsBall (h : GridWF axes ctr) (m0 : ballMask axes ctr R c0 = true) :
    CompIsBall axes ctr (ballMask axes ctr R) c0 R :=
  ⟨fun _ hc => hc, fun _ => ballMask_lt, fun _ hc => ⟨fun _ => hc, fun _ => ball_connected axes ctr h R m0 hc⟩, m0⟩

theorem comp_label_iff (h : GridWF axes ctr) (hc : CompIsBall axes ctr mask c0 R) (coord : ℕ → ℕ → ℕ) (cells : List ℕ) (shp : ℕ → ℕ) :
    let L := labelFn (shapeOf axes) mask
    let st := mergeLoop shp L (initSt coord L cells) (edgesOf (shapeOf axes) (perOf axes))
    0 < st.lab c0 ∧ ∀ c, (st.lab c = st.lab c0 ↔ ballMask axes ctr R c = true) := by
  intro L st
  have hpos := shape_pos h
  have m0 : mask c0 = true := hc.sub c0 hc.c0in
  have hposlab := (locateMask_partition (shapeOf axes) (perOf axes) mask hc.bound coord cells shp).1
  have h0 : 0 < st.lab c0 := (hposlab c0).mpr m0
  refine ⟨h0, fun c => ?_⟩
  by_cases hm : mask c = true
  · rw [← hc.comp c hm, ← locateMask_topology (shapeOf axes) (perOf axes) mask hpos hc.bound coord cells shp c0 c m0 hm]
    exact eq_comm
  · have hz : ¬ 0 < st.lab c := (hposlab c).not.mpr hm
    constructor
    · intro heq; rw [heq] at hz; exact absurd h0 hz
    · intro hb; exact absurd (hc.sub c hb) hm

theorem comp_volume (h : GridWF axes ctr) (hc : CompIsBall axes ctr mask c0 R) :
    let L := labelFn (shapeOf axes) mask
    let cells := List.range (numCells (shapeOf axes))
    let st := mergeLoop (fun a => (shapeOf axes).getD a 1) L (initSt (coordOf (shapeOf axes)) L cells)
      (edgesOf (shapeOf axes) (perOf axes))
    st.vol (st.lab c0) = (((Finset.range (numCells (shapeOf axes))).filter fun c => ballMask axes ctr R c = true).card : ℚ) := by
  intro L cells st
  obtain ⟨hr0pos, hlab⟩ := comp_label_iff h hc (coordOf (shapeOf axes)) cells (fun a => (shapeOf axes).getD a 1)
  have hpres : Present st cells (st.lab c0) := ⟨hr0pos, c0, List.mem_range.mpr (hc.bound c0 (hc.sub c0 hc.c0in)), rfl⟩
  rw [mergeLoop_volume (fun a => (shapeOf axes).getD a 1) L (coordOf (shapeOf axes)) cells
    (edgesOf (shapeOf axes) (perOf axes)) (edgesOf_cells (shapeOf axes) (perOf axes) (shape_pos h)) (st.lab c0) hpres,
    count_eq_card, Finset.filter_congr fun c _ => hlab c]

/-- **The wrap counts unwrap a resolved droplet consistently**: `ballLift` is a `ConsistentLift` of the component of `c0`,
which is what `C02_position_explicit` asks for.  Inside a droplet that does not reach around the box, face neighbours
have the same wrap count, or wrap counts one apart across a periodic boundary pair (`wrapCount_face`). -/
theorem comp_lift_consistent (h : GridWF axes ctr) (hres : Resolved axes R) (hc : CompIsBall axes ctr mask c0 R) :
    let L := labelFn (shapeOf axes) mask
    ConsistentLift L (edgesOf (shapeOf axes) (perOf axes)) (Conn L (edgesOf (shapeOf axes) (perOf axes)) c0)
      (ballLift axes ctr) := by
  intro L
  have hpos := shape_pos h
  have hLeq := (labelExec_isLabelling (shapeOf axes) mask hc.bound).2.1
  -- membership of the component = membership of the ball; the labels do not depend on the position data
  -- (`coord`, `cells`, `shp`) of the merging loop, so any will do
  have hlab := comp_label_iff h hc (fun _ _ => 0) [] (fun _ => 0)
  have hcompball : ∀ c, Conn L (edgesOf (shapeOf axes) (perOf axes)) c0 c → ballMask axes ctr R c = true := by
    intro c hcn
    have inv := labInv_final (fun _ => 0) L (fun _ _ => 0) [] (edgesOf (shapeOf axes) (perOf axes))
    exact (hlab.2 c).mp (inv.eq_of_conn hcn).symm
  have hstep : ∀ x y, mask x = true → mask y = true → GridConn (shapeOf axes) (perOf axes) mask x y →
      (ballMask axes ctr R x = true ↔ ballMask axes ctr R y = true) := by
    intro x y mx my hxy
    rw [← hc.comp x mx, ← hc.comp y my]
    exact ⟨fun hx => EqvGen.trans _ _ _ hx hxy, fun hy => EqvGen.trans _ _ _ hy (EqvGen.symm _ _ hxy)⟩
  constructor
  · intro c1 c2 p1 p2 heq a
    have b1 := hcompball c1 p1
    have q1 : mask c1 = true := hc.sub c1 b1
    have q2 : mask c2 = true := hc.sub c2 (hcompball c2 p2)
    have hconn := (hLeq c1 c2 q1 q2).mp heq
    unfold ballLift
    congr 1
    -- along the in-box path inside the image: stays in the ball, wrap counts agree
    have key : (ballMask axes ctr R c1 = true ↔ ballMask axes ctr R c2 = true) ∧
        (ballMask axes ctr R c1 = true → ∀ a, wrapCount axes ctr c1 a = wrapCount axes ctr c2 a) := by
      clear heq p1 p2 q1 q2 b1
      induction hconn with
      | rel x y hl =>
        obtain ⟨mx, my, hor⟩ := hl
        rcases hor with rfl | ⟨e, he, rfl, rfl⟩
        · exact ⟨Iff.rfl, fun _ _ => rfl⟩
        · have hs := (inboxEdges_iff (shapeOf axes) hpos e.ax e.l e.h).mp (by cases e; exact he)
          have hadj : GridConn (shapeOf axes) (perOf axes) mask e.l e.h :=
            EqvGen.rel _ _ ⟨mx, my, Or.inr ⟨e.ax, Or.inl hs⟩⟩
          have hiff := hstep e.l e.h mx my hadj
          exact ⟨hiff, fun hb a => (wrapCount_stepUp h hres hs hb a).symm⟩
      | refl x => exact ⟨Iff.rfl, fun _ _ => rfl⟩
      | symm x y _ ih => exact ⟨ih.1.symm, fun hb a => (ih.2 (ih.1.mpr hb) a).symm⟩
      | trans x y z _ _ ih1 ih2 =>
        exact ⟨ih1.1.trans ih2.1, fun hb a => (ih1.2 hb a).trans (ih2.2 (ih1.1.mp hb) a)⟩
    exact key.2 b1 a
  · intro e he pl ph _ _ a
    have ml := hcompball e.l pl
    have hs := (edgesOf_iff (shapeOf axes) (perOf axes) hpos e.ax e.l e.h).mp (by cases e; exact he)
    have := wrapCount_across h hres hs ml a
    unfold ballLift
    omega

/-- **One droplet of an emulsion (or alone): volume and position of its cluster.**  If the component of `c0`
in the image is exactly the droplet's set of covered cells and the droplet is resolved, then the cluster of
`c0` has the volume (in cells) of the covered cells and its position, in grid coordinates, is within half a
cell of the droplet's centre along every axis (up to whole periods along periodic axes only). -/
theorem comp_volume_and_position (h : GridWF axes ctr) (hr : FullyResolved axes ctr R) (hd : 0 < axes.length)
    (hc : CompIsBall axes ctr mask c0 R) :
    let L := labelFn (shapeOf axes) mask
    let cells := List.range (numCells (shapeOf axes))
    let st := mergeLoop (fun a => (shapeOf axes).getD a 1) L (initSt (coordOf (shapeOf axes)) L cells)
      (edgesOf (shapeOf axes) (perOf axes))
    st.vol (st.lab c0) = (((Finset.range (numCells (shapeOf axes))).filter fun c => ballMask axes ctr R c = true).card : ℚ) ∧
    ∃ m : ℕ → ℤ, (∀ a, a < axes.length → (axes.getD a default).periodic = false → m a = 0) ∧ ∀ a, a < axes.length →
      |(axes.getD a default).lo + (axes.getD a default).dx * st.pos (st.lab c0) a
        - (m a : ℚ) * (axes.getD a default).length - ctr.getD a 0| < (axes.getD a default).dx / 2 := by
  intro L cells st
  refine ⟨comp_volume h hc, ?_⟩
  have hpos := shape_pos h
  have m0 : mask c0 = true := hc.sub c0 hc.c0in
  have hL0 : 0 < L c0 := ((labelExec_isLabelling (shapeOf axes) mask hc.bound).1 c0).mpr m0
  have hc0 : c0 ∈ cells := List.mem_range.mpr (hc.bound c0 m0)
  obtain ⟨_, hlab⟩ := comp_label_iff h hc (coordOf (shapeOf axes)) cells (fun a => (shapeOf axes).getD a 1)
  have hne : ((Finset.range (numCells (shapeOf axes))).filter fun c => ballMask axes ctr R c = true).Nonempty :=
    ⟨c0, (mem_filter_range (fun _ => ballMask_lt) c0).mpr hc.c0in⟩
  have hm := C02_position_explicit (fun a => (shapeOf axes).getD a 1) L (coordOf (shapeOf axes)) cells
    (edgesOf (shapeOf axes) (perOf axes)) (edgesOf_cells (shapeOf axes) (perOf axes) hpos) c0 hc0 hL0
    (ballLift axes ctr) (comp_lift_consistent h (hr.resolved axes ctr hd) hc)
  set m : ℕ → ℤ := fun a => st.off (L c0) a - ballLift axes ctr c0 a with hmdef
  refine ⟨m, ?_, fun a ha => ?_⟩
  · intro a ha hp
    -- no boundary pairs along a non-periodic axis, so nothing was shifted; and nothing is wrapped
    have hoff : st.off (L c0) a = 0 := off_zero_along (fun a => (shapeOf axes).getD a 1) L (coordOf (shapeOf axes)) cells
      (edgesOf (shapeOf axes) (perOf axes)) a (by
        intro e he hax
        have := ((mem_edgesOf (shapeOf axes) (perOf axes) e).mp he).2.1
        rw [hax, per_getD ha, hp] at this
        exact absurd this (by simp)) (L c0)
    simp only [hmdef, ballLift, wrapCount_nonper hp, hoff]
    rfl
  · -- in cell units the position is the mean of `f c = coord + 1/2 + lift · n` (up to `m` periods), and `U c = dx · f c + (lo − ctr)`
    have hma := hm a
    rw [wsum_eq_finset, count_eq_card, Finset.filter_congr fun c _ => hlab c, shape_getD ha] at hma
    have hpt : ∀ c, U axes ctr c a = (axes.getD a default).dx * ((coordOf (shapeOf axes) c a : ℚ) + 1 / 2 +
          (ballLift axes ctr c a : ℚ) * (((axes.getD a default).n : ℕ) : ℚ))
        + ((axes.getD a default).lo - ctr.getD a 0) := by
      intro c
      rw [U_eq_unwrapped]
      unfold ballLift Axis.centre Axis.length
      push_cast; ring
    have hbound := ball_offset_mean axes ctr h R ha (hr a ha) hne
    rw [Finset.sum_congr rfl fun c _ => hpt c] at hbound
    have := abs_affine_mean_lt hne _ _ _ _ hbound
    rw [hma]
    convert this using 2
    unfold Axis.length
    ring

end comp

/-! ### one droplet alone: what the executed pipeline returns -/

/-- **One droplet in, one cluster out, with the exact number of covered cells.**  For every well-formed
grid, centre and radius such that the droplet covers at least one cell centre, the pipeline that the
driver executes (`locateMask`: labelling + periodic merging) returns a list with exactly ONE entry whose
volume (in cells) is the number of cell centres the droplet covers. -/
theorem locateMask_single (h : GridWF axes ctr) (R : ℚ) (maskL : List Bool)
    (hm : ∀ c, maskL.getD c false = ballMask axes ctr R c) (hne : ∃ c, ballMask axes ctr R c = true) :
    ∃ r pos, locateMask (shapeOf axes) (perOf axes) maskL =
      [(r, (((List.range (numCells (shapeOf axes))).filter (ballMask axes ctr R)).length : ℚ), pos)] := by
  obtain ⟨c0, hc0⟩ := hne
  have hmfun : (fun c => maskL.toArray.getD c false) = ballMask axes ctr R := funext fun c => by
    rw [← hm c]; simp
  have hcomp := ball_compIsBall h hc0
  obtain ⟨hr0, hlab⟩ := comp_label_iff h hcomp (coordOf (shapeOf axes)) (List.range (numCells (shapeOf axes)))
    fun a => (shapeOf axes).getD a 1
  have hposlab := (locateMask_partition (shapeOf axes) (perOf axes) (ballMask axes ctr R) (fun _ => ballMask_lt)
    (coordOf (shapeOf axes)) (List.range (numCells (shapeOf axes))) fun a => (shapeOf axes).getD a 1).1
  have hvol := comp_volume h hcomp
  rw [← list_filter_card] at hvol
  unfold locateMask
  simp only [hmfun]
  rw [locateCells_single _ _ _ _ ⟨hr0, c0, List.mem_range.mpr (ballMask_lt hc0), rfl⟩
    fun c _ hc => (hlab c).mpr ((hposlab c).mp hc)]
  exact ⟨_, _, by rw [← hvol]; rfl⟩

/-- **One droplet, end to end: the located position is within half a cell of the centre.**
For every well-formed grid (any dimension ≥ 1, anisotropic spacing, any mix of periodic axes) and every
droplet that is resolved (on periodic axes `2 (R + dx) ≤ L`, on the others the sphere lies inside the box)
and covers at least one cell centre: the position that the pipeline (rendering, labelling, periodic
merging) stores for the single cluster, converted to grid coordinates, differs from the droplet's centre
by less than HALF A CELL along every axis — up to whole periods along periodic axes, exactly along the others. -/
theorem single_droplet_within_half_cell (h : GridWF axes ctr) {R : ℚ} (hr : FullyResolved axes ctr R)
    (hd : 0 < axes.length) (c0 : ℕ) (m0 : ballMask axes ctr R c0 = true) :
    let mask := ballMask axes ctr R
    let L := labelFn (shapeOf axes) mask
    let cells := List.range (numCells (shapeOf axes))
    let st := mergeLoop (fun a => (shapeOf axes).getD a 1) L (initSt (coordOf (shapeOf axes)) L cells)
      (edgesOf (shapeOf axes) (perOf axes))
    ∃ m : ℕ → ℤ, (∀ a, a < axes.length → (axes.getD a default).periodic = false → m a = 0) ∧ ∀ a, a < axes.length →
      |(axes.getD a default).lo + (axes.getD a default).dx * st.pos (st.lab c0) a
        - (m a : ℚ) * (axes.getD a default).length - ctr.getD a 0| < (axes.getD a default).dx / 2 := by
  intro mask L cells st
  exact (comp_volume_and_position h hr hd (ball_compIsBall h m0)).2

/- non-vacuity: a 5×8 grid, periodic along the second axis, droplet of radius 1.3 centred at (2.5, 7.9),
i.e. straddling the periodic boundary: the hypotheses hold (well-formed grid, resolved along both axes), and the
executed pipeline returns one cluster of 6 cells at (2.5, 0) ≡ (2.5, 8), within half a cell of the centre up to
one period along the periodic axis -/

def axesEx : List Axis := [⟨0, 1, 5, false⟩, ⟨0, 1, 8, true⟩]

example : GridWF axesEx [5/2, 79/10] := by
  refine ⟨?_, rfl⟩
  intro a ha
  simp only [axesEx, List.mem_cons, List.not_mem_nil, or_false] at ha
  rcases ha with rfl | rfl <;> exact ⟨by norm_num, by norm_num⟩

example : locateMask [5, 8] [false, true] ((List.range 40).map (ballMask axesEx [5/2, 79/10] (13/10)))
    = [(1, 6, [5/2, 0])] := by decide +kernel

example : FullyResolved axesEx [5/2, 79/10] (13/10) := by
  intro k hk
  have : k = 0 ∨ k = 1 := by simp [axesEx] at hk; omega
  rcases this with rfl | rfl
  · refine ⟨by norm_num, ?_, ?_⟩
    · intro hp; simp [axesEx] at hp
    · intro _; simp [axesEx, Axis.length]; norm_num
  · refine ⟨by norm_num, ?_, ?_⟩
    · intro _; simp [axesEx, Axis.length]; norm_num
    · intro hp; simp [axesEx] at hp

end DV.C01
