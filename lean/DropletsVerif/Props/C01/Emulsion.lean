/-
  Several droplets: separated images have the droplets as components; a physical separation of the centres implies it;
  `C01_emulsion_model`.
-/
import DropletsVerif.Props.C01.Ball

namespace DV.C01
open DV.Merge DV.LabelInv DV.GridGeom DV.Render DV.BallConn DV.WrapDiff DV.C02 Relation

variable (axes : List Axis)

/-- the sharp image of an emulsion: the union of the droplets' images -/
def emulsionMask (balls : List (List ℚ × ℚ)) (c : ℕ) : Bool :=
  balls.any fun b => ballMask axes b.1 b.2 c

/-- the rendered droplets are separated on the grid: no cell belongs to two droplets and no cell of one
droplet is a face neighbour (under the grid's topology) of a cell of another one -/
def Separated (balls : List (List ℚ × ℚ)) : Prop :=
  ∀ b1 ∈ balls, ∀ b2 ∈ balls, b1 ≠ b2 → ∀ c c', ballMask axes b1.1 b1.2 c = true → ballMask axes b2.1 b2.2 c' = true →
    c ≠ c' ∧ ¬ FaceAdj (shapeOf axes) (perOf axes) c c' ∧ ¬ FaceAdj (shapeOf axes) (perOf axes) c' c

theorem emulsionMask_iff (balls : List (List ℚ × ℚ)) (c : ℕ) :
    emulsionMask axes balls c = true ↔ ∃ b ∈ balls, ballMask axes b.1 b.2 c = true := by
  unfold emulsionMask; simp

theorem emulsionMask_lt {axes} {balls : List (List ℚ × ℚ)} {c : ℕ} (h : emulsionMask axes balls c = true) :
    c < numCells (shapeOf axes) :=
  let ⟨_, _, hb⟩ := (emulsionMask_iff axes balls c).mp h
  ballMask_lt hb

theorem Separated.eq_of_mem {axes} {balls : List (List ℚ × ℚ)} (hsep : Separated axes balls) {b b' : List ℚ × ℚ}
    (hb : b ∈ balls) (hb' : b' ∈ balls) {c : ℕ} (h : ballMask axes b.1 b.2 c = true) (h' : ballMask axes b'.1 b'.2 c = true) :
    b = b' :=
  by_contra fun hne => (hsep b hb b' hb' hne c c h h').1 rfl

/-- **Several droplets: the components of the rendered emulsion are exactly the droplets.**  If the
rendered droplets are separated on the grid, two covered cells are connected under the grid's topology
inside the image iff they belong to the same droplet — hence (by `locateMask_topology`) the pipeline forms
exactly one cluster per droplet, each with the cells that droplet covers. -/
theorem emulsion_components (balls : List (List ℚ × ℚ)) (hwf : ∀ b ∈ balls, GridWF axes b.1)
    (hsep : Separated axes balls) {c1 c2 : ℕ}
    (m1 : emulsionMask axes balls c1 = true) (m2 : emulsionMask axes balls c2 = true) :
    GridConn (shapeOf axes) (perOf axes) (emulsionMask axes balls) c1 c2 ↔
      ∃ b ∈ balls, ballMask axes b.1 b.2 c1 = true ∧ ballMask axes b.1 b.2 c2 = true := by
  constructor
  · intro hconn
    -- same membership in every droplet along the whole path
    have key : ∀ b ∈ balls, (ballMask axes b.1 b.2 c1 = true ↔ ballMask axes b.1 b.2 c2 = true) := by
      clear m1 m2
      induction hconn with
      | rel x y hl =>
        obtain ⟨mx, my, hor⟩ := hl
        rcases hor with rfl | hadj
        · intro _ _; exact Iff.rfl
        · obtain ⟨bx, hbx, hx⟩ := (emulsionMask_iff axes balls x).mp mx
          obtain ⟨bY, hbY, hy⟩ := (emulsionMask_iff axes balls y).mp my
          obtain rfl : bx = bY := by_contra fun hne => (hsep bx hbx bY hbY hne x y hx hy).2.1 hadj
          intro b hb
          exact ⟨fun h => (hsep.eq_of_mem hb hbx h hx).symm ▸ hy, fun h => (hsep.eq_of_mem hb hbx h hy).symm ▸ hx⟩
      | refl x => intro _ _; exact Iff.rfl
      | symm x y _ ih => intro b hb; exact (ih b hb).symm
      | trans x y z _ _ ih1 ih2 => intro b hb; exact (ih1 b hb).trans (ih2 b hb)
    obtain ⟨b, hb, h1⟩ := (emulsionMask_iff axes balls c1).mp m1
    exact ⟨b, hb, h1, (key b hb).mp h1⟩
  · rintro ⟨b, hb, h1, h2⟩
    exact gridConn_mono (fun c hc => (emulsionMask_iff axes balls c).mpr ⟨b, hb, hc⟩)
      (ball_connected axes b.1 (hwf b hb) b.2 h1 h2)

/-- in the pipeline: one cluster per droplet -/
theorem emulsion_one_cluster_each (balls : List (List ℚ × ℚ)) (hwf : ∀ b ∈ balls, GridWF axes b.1)
    (hsep : Separated axes balls) (hpos : ∀ n ∈ shapeOf axes, 0 < n)
    (coord : ℕ → ℕ → ℕ) (cells : List ℕ) (shp : ℕ → ℕ) :
    let mask := emulsionMask axes balls
    let L := labelFn (shapeOf axes) mask
    let st := mergeLoop shp L (initSt coord L cells) (edgesOf (shapeOf axes) (perOf axes))
    ∀ c1 c2, mask c1 = true → mask c2 = true →
      (st.lab c1 = st.lab c2 ↔ ∃ b ∈ balls, ballMask axes b.1 b.2 c1 = true ∧ ballMask axes b.1 b.2 c2 = true) := by
  intro mask L st c1 c2 m1 m2
  rw [locateMask_topology (shapeOf axes) (perOf axes) mask hpos (fun _ => emulsionMask_lt) coord cells shp c1 c2 m1 m2]
  exact emulsion_components axes balls hwf hsep m1 m2

theorem emulsion_compIsBall (balls : List (List ℚ × ℚ)) (hwf : ∀ b ∈ balls, GridWF axes b.1)
    (hsep : Separated axes balls) (b : List ℚ × ℚ) (hb : b ∈ balls) (c0 : ℕ) (h0 : ballMask axes b.1 b.2 c0 = true) :
    CompIsBall axes b.1 (emulsionMask axes balls) c0 b.2 := by
  refine ⟨fun c hc => (emulsionMask_iff axes balls c).mpr ⟨b, hb, hc⟩, fun _ => emulsionMask_lt, fun c hc => ?_, h0⟩
  have m0 : emulsionMask axes balls c0 = true := (emulsionMask_iff axes balls c0).mpr ⟨b, hb, h0⟩
  rw [emulsion_components axes balls hwf hsep m0 hc]
  exact ⟨fun ⟨b', hb', h1, h2⟩ => hsep.eq_of_mem hb' hb h1 h0 ▸ h2, fun hcb => ⟨b, hb, h0, hcb⟩⟩

/-- `C01_emulsion_model` with the separation of the images (`Separated`) as the hypothesis -/
theorem emulsion_droplet_located (balls : List (List ℚ × ℚ)) (hwf : ∀ b ∈ balls, GridWF axes b.1)
    (hsep : Separated axes balls) (hd : 0 < axes.length) (b : List ℚ × ℚ) (hb : b ∈ balls)
    (hr : FullyResolved axes b.1 b.2) (c0 : ℕ) (h0 : ballMask axes b.1 b.2 c0 = true) :
    let mask := emulsionMask axes balls
    let L := labelFn (shapeOf axes) mask
    let cells := List.range (numCells (shapeOf axes))
    let st := mergeLoop (fun a => (shapeOf axes).getD a 1) L (initSt (coordOf (shapeOf axes)) L cells)
      (edgesOf (shapeOf axes) (perOf axes))
    (∀ c, st.lab c = st.lab c0 ↔ ballMask axes b.1 b.2 c = true) ∧
    st.vol (st.lab c0) = (((Finset.range (numCells (shapeOf axes))).filter fun c => ballMask axes b.1 b.2 c = true).card : ℚ) ∧
    ∃ m : ℕ → ℤ, (∀ a, a < axes.length → (axes.getD a default).periodic = false → m a = 0) ∧ ∀ a, a < axes.length →
      |(axes.getD a default).lo + (axes.getD a default).dx * st.pos (st.lab c0) a
        - (m a : ℚ) * (axes.getD a default).length - b.1.getD a 0| < (axes.getD a default).dx / 2 := by
  intro mask L cells st
  have hc := emulsion_compIsBall axes balls hwf hsep b hb c0 h0
  have h := hwf b hb
  exact ⟨(comp_label_iff h hc (coordOf (shapeOf axes)) cells (fun a => (shapeOf axes).getD a 1)).2,
    comp_volume_and_position h hr hd hc⟩

/-! ### a physical separation of the centres implies `Separated` -/

/-- the periodic difference is the smallest representative -/
theorem wrapDiff_min (L w w' : ℚ) (hL : 0 < L) (k : ℤ) (h : w' = w + k * L) : (wrapDiff L w) ^ 2 ≤ w' ^ 2 := by
  obtain ⟨k0, hk0⟩ := wrapDiff_congr L w
  obtain ⟨r1, r2⟩ := wrapDiff_range L w hL
  set v := wrapDiff L w with hv
  have hw' : w' = v + ((k + k0 : ℤ) : ℚ) * L := by rw [h, hk0]; push_cast; ring
  rcases eq_or_ne (k + k0) 0 with hzero | hne
  · rw [hw', hzero]; simp
  -- a whole number of periods away, `w'` is at least `L − |v| ≥ L/2 ≥ |v|` from zero
  rw [sq_le_sq, hw']
  have h1 : |v| ≤ L / 2 := abs_le.mpr ⟨r1, r2.le⟩
  have h2 : L ≤ |((k + k0 : ℤ) : ℚ)| * |L| :=
    (le_abs_self L).trans (le_mul_of_one_le_left (abs_nonneg L) (by exact_mod_cast Int.one_le_abs hne))
  have h3 := abs_sub_abs_le_abs_sub (((k + k0 : ℤ) : ℚ) * L) (-v)
  rw [abs_neg, sub_neg_eq_add, add_comm _ v, abs_mul] at h3
  linarith only [h1, h2, h3]

/-- Minkowski's inequality for three vectors, in squared form -/
theorem minkowski3 (s : Finset ℕ) (a b c : ℕ → ℚ) (A B C : ℚ) (hA : 0 ≤ A) (hB : 0 ≤ B) (hC : 0 ≤ C)
    (ha : ∑ i ∈ s, a i ^ 2 < A ^ 2) (hb : ∑ i ∈ s, b i ^ 2 ≤ B ^ 2) (hc : ∑ i ∈ s, c i ^ 2 ≤ C ^ 2) :
    ∑ i ∈ s, (a i + b i + c i) ^ 2 < (A + B + C) ^ 2 := by
  have cs : ∀ (f g : ℕ → ℚ) (F G : ℚ), 0 ≤ F → 0 ≤ G → ∑ i ∈ s, f i ^ 2 ≤ F ^ 2 → ∑ i ∈ s, g i ^ 2 ≤ G ^ 2 →
      ∑ i ∈ s, f i * g i ≤ F * G := by
    intro f g F G hF hG hf hg
    have h := Finset.sum_mul_sq_le_sq_mul_sq s f g
    have hf0 : 0 ≤ ∑ i ∈ s, f i ^ 2 := Finset.sum_nonneg fun i _ => sq_nonneg _
    have hg0 : 0 ≤ ∑ i ∈ s, g i ^ 2 := Finset.sum_nonneg fun i _ => sq_nonneg _
    have : (∑ i ∈ s, f i * g i) ^ 2 ≤ (F * G) ^ 2 := by
      calc (∑ i ∈ s, f i * g i) ^ 2 ≤ (∑ i ∈ s, f i ^ 2) * (∑ i ∈ s, g i ^ 2) := h
        _ ≤ F ^ 2 * G ^ 2 := mul_le_mul hf hg hg0 (sq_nonneg F)
        _ = (F * G) ^ 2 := by ring
    exact (abs_le_of_sq_le_sq' this (mul_nonneg hF hG)).2
  have hab := cs a b A B hA hB ha.le hb
  have hac := cs a c A C hA hC ha.le hc
  have hbc := cs b c B C hB hC hb hc
  have expand : ∑ i ∈ s, (a i + b i + c i) ^ 2 =
      ∑ i ∈ s, a i ^ 2 + ∑ i ∈ s, b i ^ 2 + ∑ i ∈ s, c i ^ 2
        + 2 * ∑ i ∈ s, a i * b i + 2 * ∑ i ∈ s, a i * c i + 2 * ∑ i ∈ s, b i * c i := by
    simp only [Finset.mul_sum, ← Finset.sum_add_distrib]
    apply Finset.sum_congr rfl
    intro i _; ring
  rw [expand, show (A + B + C) ^ 2 = A ^ 2 + B ^ 2 + C ^ 2 + 2 * (A * B) + 2 * (A * C) + 2 * (B * C) by ring]
  linarith only [ha, hb, hc, hab, hac, hbc]

/-- periodic difference of two centres along axis `a` -/
def cdiff (p q : List ℚ) (a : ℕ) : ℚ :=
  if (axes.getD a default).periodic = true then wrapDiff (axes.getD a default).length (p.getD a 0 - q.getD a 0)
  else p.getD a 0 - q.getD a 0

/-- squared distance of two centres under the grid's periodic metric -/
def cdist2 (p q : List ℚ) : ℚ := ∑ a ∈ Finset.range axes.length, cdiff axes p q a ^ 2

theorem cdiff_rep (p q : List ℚ) (a : ℕ) : ∃ k : ℤ, ((axes.getD a default).periodic = false → k = 0) ∧
    cdiff axes p q a = p.getD a 0 - q.getD a 0 + k * (axes.getD a default).length := by
  unfold cdiff
  split_ifs with hper
  · obtain ⟨k, hk⟩ := wrapDiff_congr (axes.getD a default).length (p.getD a 0 - q.getD a 0)
    exact ⟨-k, fun h => (by rw [h] at hper; cases hper), by rw [hk]; push_cast; ring⟩
  · exact ⟨0, fun _ => rfl, by simp⟩

theorem cdist2_le_of_rep {p : List ℚ} (hp : GridWF axes p) (q : List ℚ) (v : ℕ → ℚ)
    (hv : ∀ a, a < axes.length → ∃ k : ℤ, ((axes.getD a default).periodic = false → k = 0) ∧
      v a = p.getD a 0 - q.getD a 0 + k * (axes.getD a default).length) :
    cdist2 axes p q ≤ ∑ a ∈ Finset.range axes.length, v a ^ 2 := by
  refine Finset.sum_le_sum fun a ha => ?_
  obtain ⟨k, hk0, hk⟩ := hv a (Finset.mem_range.mp ha)
  unfold cdiff
  split_ifs with hper
  · exact wrapDiff_min _ _ _ (length_pos _ (axis_wf hp (Finset.mem_range.mp ha))) k hk
  · rw [hk, hk0 (by simpa using hper)]; simp

/-- triangle inequality for the periodic metric, in squared form, for `p − q` a sum of three vectors modulo whole periods -/
theorem cdist2_lt_of_three {p : List ℚ} (hp : GridWF axes p) (q : List ℚ) (a b c : ℕ → ℚ) (A B C : ℚ)
    (hA : 0 ≤ A) (hB : 0 ≤ B) (hC : 0 ≤ C) (ha : ∑ i ∈ Finset.range axes.length, a i ^ 2 < A ^ 2)
    (hb : ∑ i ∈ Finset.range axes.length, b i ^ 2 ≤ B ^ 2) (hc : ∑ i ∈ Finset.range axes.length, c i ^ 2 ≤ C ^ 2)
    (hv : ∀ i, i < axes.length → ∃ k : ℤ, ((axes.getD i default).periodic = false → k = 0) ∧
      a i + b i + c i = p.getD i 0 - q.getD i 0 + k * (axes.getD i default).length) :
    cdist2 axes p q < (A + B + C) ^ 2 :=
  (cdist2_le_of_rep axes hp q _ hv).trans_lt (minkowski3 _ a b c A B C hA hB hC ha hb hc)

theorem cdist2_comm {p q : List ℚ} (hp : GridWF axes p) (hq : GridWF axes q) : cdist2 axes p q = cdist2 axes q p := by
  have key : ∀ {p q : List ℚ}, GridWF axes p → cdist2 axes p q ≤ cdist2 axes q p := fun {p q} hp =>
    (cdist2_le_of_rep axes hp q (fun a => -cdiff axes q p a) fun a _ => by
      obtain ⟨k, hk0, hk⟩ := cdiff_rep axes q p a
      exact ⟨-k, fun h => by rw [hk0 h]; rfl, by rw [hk]; push_cast; ring⟩).trans_eq
      (Finset.sum_congr rfl fun a _ => neg_sq _)
  exact le_antisymm (key hp) (key hq)

/-- from a cell to itself or to its upper face neighbour the centre moves, along every axis, by at most one
cell — up to one period along a periodic axis -/
theorem step_offsets {p : List ℚ} (h : GridWF axes p) (hmax : ℚ) (hh : ∀ a ∈ axes, a.dx ≤ hmax)
    {c c' : ℕ} (hadj : c = c' ∨ FaceAdj (shapeOf axes) (perOf axes) c c') :
    ∃ (e : ℕ → ℚ) (j : ℕ → ℤ), ∑ a ∈ Finset.range axes.length, e a ^ 2 ≤ hmax ^ 2 ∧
      ∀ a, a < axes.length →
        (axes.getD a default).centre (coordOf (shapeOf axes) c' a) - (axes.getD a default).centre (coordOf (shapeOf axes) c a)
          = e a + (j a : ℚ) * (axes.getD a default).length ∧
        ((axes.getD a default).periodic = false → j a = 0) := by
  rcases hadj with rfl | ⟨ax, hs⟩
  · exact ⟨fun _ => 0, fun _ => 0, by simpa using sq_nonneg hmax, fun a _ => by simp⟩
  have hk : ax < axes.length := by
    rcases hs with hs | hs <;> simpa [shapeOf] using hs.2.2.1
  -- along `ax`: one cell up, or one cell down and one period up across the periodic boundary
  obtain ⟨s, t, hs1, ht, hcen, hoth⟩ : ∃ (s : ℚ) (t : ℤ), s ^ 2 = 1 ∧ ((axes.getD ax default).periodic = false → t = 0) ∧
      (axes.getD ax default).centre (coordOf (shapeOf axes) c' ax) - (axes.getD ax default).centre (coordOf (shapeOf axes) c ax)
        = s * (axes.getD ax default).dx + (t : ℚ) * (axes.getD ax default).length ∧
      ∀ a, a ≠ ax → coordOf (shapeOf axes) c' a = coordOf (shapeOf axes) c a := by
    rcases hs with ⟨_, _, _, hset, _⟩ | ⟨_, _, _, hper, h0, hset⟩
    · obtain ⟨c1, c2⟩ := coord_of_set h hk hset
      exact ⟨1, 0, by norm_num, fun _ => rfl, by rw [centre_sub, c1]; push_cast; ring, c2⟩
    · obtain ⟨c1, c2⟩ := coord_of_set h hk hset
      rw [per_getD hk] at hper
      rw [shape_getD hk] at c1
      refine ⟨-1, 1, by norm_num, fun hp => (by rw [hper] at hp; cases hp), ?_, c2⟩
      rw [centre_sub, c1, h0, Nat.cast_sub (axis_wf h hk).n_pos]
      unfold Axis.length; push_cast; ring
  have hm : axes.getD ax default ∈ axes := getD_mem axes hk default
  refine ⟨fun a => if a = ax then s * (axes.getD ax default).dx else 0, fun a => if a = ax then t else 0, ?_, fun a ha => ?_⟩
  · rw [Finset.sum_eq_single ax (fun b _ hb => by simp [hb]) (fun hn => absurd (Finset.mem_range.mpr hk) hn)]
    simp only [if_true, mul_pow, hs1, one_mul]
    exact pow_le_pow_left₀ (h.wf _ hm).dx_pos.le (hh _ hm) 2
  · by_cases hax : a = ax
    · subst hax; simpa using ⟨hcen, ht⟩
    · simp [hax, hoth a hax]

/-- a cell of one droplet is neither a cell nor a lower face neighbour of a cell of a distant droplet -/
theorem not_near_of_distance {p q : List ℚ} (hp : GridWF axes p) (hq : GridWF axes q) (R1 R2 hmax : ℚ)
    (h1 : 0 ≤ R1) (h2 : 0 ≤ R2) (hh : ∀ a ∈ axes, a.dx ≤ hmax) (h0 : 0 ≤ hmax)
    (hdist : (R1 + R2 + hmax) ^ 2 ≤ cdist2 axes p q) {c c' : ℕ}
    (m1 : ballMask axes p R1 c = true) (m2 : ballMask axes q R2 c' = true) :
    ¬ (c = c' ∨ FaceAdj (shapeOf axes) (perOf axes) c c') := by
  intro hadj
  obtain ⟨e, j, hes, hej⟩ := step_offsets axes hp hmax hh hadj
  have hD1 := (ballMask_iff.mp m1).2
  have hD2 := (ballMask_iff.mp m2).2
  rw [D_eq_sum hp c, ← sq] at hD1
  rw [D_eq_sum hq c', ← sq] at hD2
  -- `p − q = (cell' − q) − (cell − p) − (cell' − cell)` modulo whole periods
  have := cdist2_lt_of_three axes hp q (fun a => U axes q c' a) (fun a => -U axes p c a) (fun a => -e a) R2 R1 hmax h2 h1 h0
    hD2 (by simpa only [neg_sq] using hD1.le) (by simpa only [neg_sq] using hes) fun a ha =>
      ⟨j a + wrapCount axes p c a - wrapCount axes q c' a,
        fun hper => by rw [(hej a ha).2 hper, wrapCount_nonper hper, wrapCount_nonper hper]; rfl, by
          rw [U_eq_unwrapped, U_eq_unwrapped]; push_cast; linear_combination (hej a ha).1⟩
  exact absurd (hdist.trans_lt this) (by rw [add_comm R2 R1]; exact lt_irrefl _)

/-- **Droplets whose centres are at least `R₁ + R₂ + h` apart (periodic metric, `h` ≥ every cell size)
are separated on the grid**: no cell is covered by both and no covered cells are face neighbours. -/
theorem separated_of_distance {p q : List ℚ} (hp : GridWF axes p) (hq : GridWF axes q) (R1 R2 hmax : ℚ)
    (h1 : 0 ≤ R1) (h2 : 0 ≤ R2) (hh : ∀ a ∈ axes, a.dx ≤ hmax) (h0 : 0 ≤ hmax)
    (hdist : (R1 + R2 + hmax) ^ 2 ≤ cdist2 axes p q) {c c' : ℕ}
    (m1 : ballMask axes p R1 c = true) (m2 : ballMask axes q R2 c' = true) :
    c ≠ c' ∧ ¬ FaceAdj (shapeOf axes) (perOf axes) c c' ∧ ¬ FaceAdj (shapeOf axes) (perOf axes) c' c := by
  have hqp : (R2 + R1 + hmax) ^ 2 ≤ cdist2 axes q p := by rwa [add_comm R2 R1, cdist2_comm axes hq hp]
  exact ⟨fun h => not_near_of_distance axes hp hq R1 R2 hmax h1 h2 hh h0 hdist m1 m2 (Or.inl h),
    fun h => not_near_of_distance axes hp hq R1 R2 hmax h1 h2 hh h0 hdist m1 m2 (Or.inr h),
    fun h => not_near_of_distance axes hq hp R2 R1 hmax h2 h1 hh h0 hqp m2 m1 (Or.inr h)⟩

theorem separated_of_pairwise_distance (balls : List (List ℚ × ℚ)) (hwf : ∀ b ∈ balls, GridWF axes b.1)
    (hR : ∀ b ∈ balls, 0 ≤ b.2) (hmax : ℚ) (hh : ∀ a ∈ axes, a.dx ≤ hmax) (h0 : 0 ≤ hmax)
    (hdist : ∀ b1 ∈ balls, ∀ b2 ∈ balls, b1 ≠ b2 → (b1.2 + b2.2 + hmax) ^ 2 ≤ cdist2 axes b1.1 b2.1) :
    Separated axes balls := by
  intro b1 hb1 b2 hb2 hne c c' m1 m2
  exact separated_of_distance axes (hwf b1 hb1) (hwf b2 hb2) b1.2 b2.2 hmax (hR b1 hb1) (hR b2 hb2) hh h0
    (hdist b1 hb1 b2 hb2 hne) m1 m2

/-- **C01 in the model, from physical hypotheses only.**  Any number of droplets on any well-formed grid
(any dimension ≥ 1, anisotropic spacing, any periodicity mask), such that
* the centres of any two of them are at least `Rᵢ + Rⱼ + h` apart under the grid's periodic metric, `h` being a
  bound on the cell size (WELL-SEPARATED), and
* each droplet is resolved (on periodic axes `2(R + dx) ≤ L`, on the other axes the sphere lies inside the box)
  and covers at least one cell centre (RESOLVABLE):
then for every droplet the pipeline rendering → labelling → periodic merging forms one cluster that consists
of exactly the cells whose centres the droplet covers; its volume is the number of those cells (× cell
volume), and its position in grid coordinates lies within HALF A CELL of the droplet's centre along every
axis (up to whole periods along periodic axes only). -/
theorem C01_emulsion_model (balls : List (List ℚ × ℚ)) (hwf : ∀ b ∈ balls, GridWF axes b.1) (hd : 0 < axes.length)
    (hmax : ℚ) (hh : ∀ a ∈ axes, a.dx ≤ hmax) (h0 : 0 ≤ hmax)
    (hdist : ∀ b1 ∈ balls, ∀ b2 ∈ balls, b1 ≠ b2 → (b1.2 + b2.2 + hmax) ^ 2 ≤ cdist2 axes b1.1 b2.1)
    (hres : ∀ b ∈ balls, FullyResolved axes b.1 b.2)
    (b : List ℚ × ℚ) (hb : b ∈ balls) (c0 : ℕ) (hc0 : ballMask axes b.1 b.2 c0 = true) :
    let mask := emulsionMask axes balls
    let L := labelFn (shapeOf axes) mask
    let cells := List.range (numCells (shapeOf axes))
    let st := mergeLoop (fun a => (shapeOf axes).getD a 1) L (initSt (coordOf (shapeOf axes)) L cells)
      (edgesOf (shapeOf axes) (perOf axes))
    (∀ c, st.lab c = st.lab c0 ↔ ballMask axes b.1 b.2 c = true) ∧
    st.vol (st.lab c0) = (((Finset.range (numCells (shapeOf axes))).filter fun c => ballMask axes b.1 b.2 c = true).card : ℚ) ∧
    ∃ m : ℕ → ℤ, (∀ a, a < axes.length → (axes.getD a default).periodic = false → m a = 0) ∧ ∀ a, a < axes.length →
      |(axes.getD a default).lo + (axes.getD a default).dx * st.pos (st.lab c0) a
        - (m a : ℚ) * (axes.getD a default).length - b.1.getD a 0| < (axes.getD a default).dx / 2 := by
  have hR : ∀ b ∈ balls, 0 ≤ b.2 := fun b hb => (hres b hb 0 hd).nonneg
  exact emulsion_droplet_located axes balls hwf (separated_of_pairwise_distance axes balls hwf hR hmax hh h0 hdist) hd b hb
    (hres b hb) c0 hc0

def axes12 : List Axis := [⟨0, 1, 12, true⟩, ⟨0, 1, 12, true⟩]

/-- non-vacuity of the hypotheses of `C01_emulsion_model`: two droplets of radius 3/2 at (3,3) and (9,9) on the
12×12 fully periodic unit grid `axes12` (cell size bound 1) -/
example : ((3/2 : ℚ) + 3/2 + 1) ^ 2 ≤ cdist2 axes12 [3, 3] [9, 9] := by decide +kernel

/-- on the fully periodic grid the centre does not matter -/
theorem axes12_resolved (ctr : List ℚ) : FullyResolved axes12 ctr (3/2) := by
  intro k hk
  have : k = 0 ∨ k = 1 := by simp [axes12] at hk; omega
  rcases this with rfl | rfl <;>
  · refine ⟨by norm_num, ?_, ?_⟩
    · intro _; simp [axes12, Axis.length]; norm_num
    · intro hp; simp [axes12] at hp

example : FullyResolved axes12 [3, 3] (3/2) := axes12_resolved _

example : ballMask axes12 [3, 3] (3/2) (3 * 12 + 3) = true := by decide +kernel

/-- the hypotheses do not confine centres to the box: the same droplet given by its periodic image three periods below / two periods above
the box (a periodic distance that is valid only within 1.5 periods, the trial change seeded/C01-j, fails on such input) -/
example : ((3/2 : ℚ) + 3/2 + 1) ^ 2 ≤ cdist2 axes12 [3 - 36, 3 + 24] [9, 9] := by decide +kernel

example : FullyResolved axes12 [3 - 36, 3 + 24] (3/2) := axes12_resolved _

example : ballMask axes12 [3 - 36, 3 + 24] (3/2) (3 * 12 + 3) = true := by decide +kernel

end DV.C01
