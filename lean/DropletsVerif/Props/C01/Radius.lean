/-
  The last step: the overlap filter has nothing to remove.  The cells a droplet covers, unwrapped around it, are exactly the
  lattice points within `R` of its centre (`latticeSet`), so the packing and covering bounds of Lemmas/Lattice put the located
  equal-volume radius within half a cell diagonal of `R`; the periodic triangle inequality then keeps located spheres apart.
-/
import DropletsVerif.Props.C01.Emulsion
import DropletsVerif.Lemmas.Lattice
import DropletsVerif.Props.C12

namespace DV.C01
open DV.Merge DV.LabelInv DV.GridGeom DV.Render DV.BallConn DV.Lattice WithLp

variable (axes : List Axis) (ctr : List ℚ)

/-! ### the covered cells as lattice points -/

/-- lattice index of a cell, unwrapped around the droplet -/
def latticeIdx (c a : ℕ) : ℤ := (coordOf (shapeOf axes) c a : ℤ) - wrapCount axes ctr c a * ((axes.getD a default).n : ℤ)

theorem latticeIdx_eq (c a : ℕ) :
    latticeIdx axes ctr c a = unwrapIdx (axes.getD a default) (ctr.getD a 0) (coordOf (shapeOf axes) c a) := rfl

theorem latticeIdx_inj (h : GridWF axes ctr) {c c' : ℕ} (hc : c < numCells (shapeOf axes)) (hc' : c' < numCells (shapeOf axes))
    (heq : ∀ a, a < axes.length → latticeIdx axes ctr c a = latticeIdx axes ctr c' a) : c = c' := by
  refine coordOf_inj (shapeOf axes) (shape_pos h) hc hc' fun a ha => ?_
  have ha' : a < axes.length := by rwa [shape_length] at ha
  -- a coordinate is its lattice index modulo the number of cells
  rw [← unwrapIdx_emod _ (ctr.getD a 0) (coord_lt h c ha'), ← unwrapIdx_emod _ (ctr.getD a 0) (coord_lt h c' ha')]
  rw [← latticeIdx_eq, ← latticeIdx_eq, heq a ha']

theorem U_eq_lattice (c a : ℕ) : U axes ctr c a =
    (axes.getD a default).lo + ((latticeIdx axes ctr c a : ℚ) + 1 / 2) * (axes.getD a default).dx - ctr.getD a 0 :=
  diff_eq_latOff _ _ _

/-- **Every lattice point within `R` of the centre of a resolved droplet is (the unwrapped position of) a covered cell.** -/
theorem lattice_point_is_covered (h : GridWF axes ctr) (R : ℚ) (hres : FullyResolved axes ctr R) (nn : ℕ → ℤ)
    (hsum : ∑ a ∈ Finset.range axes.length,
      ((axes.getD a default).lo + ((nn a : ℚ) + 1 / 2) * (axes.getD a default).dx - ctr.getD a 0) ^ 2 < R ^ 2) :
    ∃ c, c < numCells (shapeOf axes) ∧ ballMask axes ctr R c = true ∧
      ∀ a, a < axes.length → latticeIdx axes ctr c a = nn a := by
  set δ : ℕ → ℚ := fun a => (axes.getD a default).lo + ((nn a : ℚ) + 1 / 2) * (axes.getD a default).dx - ctr.getD a 0 with hδ
  have hcomp : ∀ a, a < axes.length → |δ a| < R := fun a ha =>
    abs_lt_of_sq_lt_sq ((Finset.single_le_sum (f := fun b => δ b ^ 2) (fun b _ => sq_nonneg _)
      (Finset.mem_range.mpr ha)).trans_lt hsum) (hres a ha).nonneg
  have hfold := fun a ha => axis_fold (axes.getD a default) (axis_wf h ha) (ctr.getD a 0) R (hres a ha) (nn a) (hcomp a ha)
  obtain ⟨c, hclt, hcoord⟩ := exists_coordOf (shapeOf axes) (fun a => (nn a % ((axes.getD a default).n : ℤ)).toNat) fun a ha => by
    rw [shape_length] at ha
    rw [shape_getD ha]
    exact (hfold a ha).1
  rw [shape_length] at hcoord
  have hU : ∀ a, a < axes.length → U axes ctr c a = δ a := by
    intro a ha
    rw [U_eq, hcoord a ha]
    exact (hfold a ha).2.1
  refine ⟨c, hclt, ?_, ?_⟩
  · rw [ballMask_iff, D_eq_sum h c, Finset.sum_congr rfl fun a ha => by rw [hU a (Finset.mem_range.mp ha)], ← sq]
    exact ⟨hclt, hsum⟩
  · intro a ha
    rw [latticeIdx_eq, hcoord a ha]
    exact (hfold a ha).2.2

/-- the covered cells as a set of lattice points (unwrapped around the droplet) -/
def latticeSet (R : ℚ) : Finset (Fin axes.length → ℤ) :=
  ((Finset.range (numCells (shapeOf axes))).filter fun c => ballMask axes ctr R c = true).image
    fun c => fun a : Fin axes.length => latticeIdx axes ctr c a

theorem norm_sq_cast (d : ℕ) (g : ℕ → ℚ) :
    ‖(toLp 2 (fun a : Fin d => ((g a : ℚ) : ℝ)) : EuclideanSpace ℝ (Fin d))‖ ^ 2 = ((∑ a ∈ Finset.range d, g a ^ 2 : ℚ) : ℝ) := by
  rw [EuclideanSpace.norm_sq_eq, ← Fin.sum_univ_eq_sum_range (fun a => g a ^ 2) d]
  push_cast
  exact Finset.sum_congr rfl fun a _ => by rw [Real.norm_eq_abs, sq_abs]

/-- distance of lattice point `n` from the droplet's centre, in the form in which Lemmas/Lattice states its bounds -/
noncomputable def latDist (n : Fin axes.length → ℤ) : ℝ :=
  ‖(toLp 2 (centre (fun a : Fin axes.length => (((axes.getD a default).lo : ℚ) : ℝ)) (fun a : Fin axes.length => (((axes.getD a default).dx : ℚ) : ℝ)) n)
    : EuclideanSpace ℝ (Fin axes.length)) - toLp 2 (fun a : Fin axes.length => ((ctr.getD a 0 : ℚ) : ℝ))‖

theorem latDist_lt_iff (nn : ℕ → ℤ) {R : ℚ} (hR : 0 ≤ R) :
    latDist axes ctr (fun a => nn a) < (R : ℝ) ↔
      ∑ a ∈ Finset.range axes.length,
          ((axes.getD a default).lo + ((nn a : ℚ) + 1 / 2) * (axes.getD a default).dx - ctr.getD a 0) ^ 2 < R ^ 2 := by
  set g : ℕ → ℚ := fun a => (axes.getD a default).lo + ((nn a : ℚ) + 1 / 2) * (axes.getD a default).dx - ctr.getD a 0
  have e : latDist axes ctr (fun a => nn a) =
      ‖(toLp 2 fun a : Fin axes.length => ((g a : ℚ) : ℝ) : EuclideanSpace ℝ (Fin axes.length))‖ := by
    rw [latDist, ← toLp_sub]
    congr 2
    funext a
    simp only [Pi.sub_apply, centre, g]
    push_cast
    rfl
  rw [e, ← pow_lt_pow_iff_left₀ (norm_nonneg _) (Rat.cast_nonneg.mpr hR) two_ne_zero, norm_sq_cast, ← Rat.cast_pow, Rat.cast_lt]

theorem latticeSet_complete (h : GridWF axes ctr) (R : ℚ) (hres : FullyResolved axes ctr R)
    (hd0 : 0 < axes.length) (n : Fin axes.length → ℤ) (hn : latDist axes ctr n < (R : ℝ)) :
    n ∈ latticeSet axes ctr R := by
  obtain ⟨nn, rfl⟩ : ∃ nn : ℕ → ℤ, (fun a : Fin axes.length => nn a) = n :=
    ⟨fun a => if ha : a < axes.length then n ⟨a, ha⟩ else 0, funext fun a => by simp⟩
  obtain ⟨c, hclt, hcm, hci⟩ := lattice_point_is_covered axes ctr h R hres nn
    ((latDist_lt_iff axes ctr nn (hres 0 hd0).nonneg).mp hn)
  exact Finset.mem_image.mpr ⟨c, Finset.mem_filter.mpr ⟨Finset.mem_range.mpr hclt, hcm⟩, funext fun a => hci a a.2⟩

theorem latticeSet_card (h : GridWF axes ctr) (R : ℚ) :
    (latticeSet axes ctr R).card = ((Finset.range (numCells (shapeOf axes))).filter fun c => ballMask axes ctr R c = true).card := by
  unfold latticeSet
  apply Finset.card_image_of_injOn
  intro c hc c' hc' heq
  have m1 := ballMask_iff.mp (Finset.mem_filter.mp hc).2
  have m2 := ballMask_iff.mp (Finset.mem_filter.mp hc').2
  apply latticeIdx_inj axes ctr h m1.1 m2.1
  intro a ha
  have := congrFun heq ⟨a, ha⟩
  simpa using this

theorem latticeSet_sub (h : GridWF axes ctr) (R : ℚ) (hR : 0 ≤ R) :
    ∀ n ∈ latticeSet axes ctr R, latDist axes ctr n < (R : ℝ) := by
  intro n hn
  obtain ⟨c, hc, rfl⟩ := Finset.mem_image.mp hn
  have hD := (ballMask_iff.mp (Finset.mem_filter.mp hc).2).2
  rw [D_eq_sum h c, Finset.sum_congr rfl fun a _ => by rw [U_eq_lattice], ← sq] at hD
  exact (latDist_lt_iff axes ctr (fun a => latticeIdx axes ctr c a) hR).mpr hD

/-- **The cells covered by a droplet, unwrapped around it, are distinct lattice points within `R` of its centre.** -/
theorem covered_as_lattice (h : GridWF axes ctr) (R : ℚ) (hR : 0 ≤ R) (d : ℕ) (hd : axes.length = d) :
    ∃ T : Finset (Fin d → ℤ),
      T.card = ((Finset.range (numCells (shapeOf axes))).filter fun c => ballMask axes ctr R c = true).card ∧
      ∀ n ∈ T, ‖(toLp 2 (centre (fun a : Fin d => (((axes.getD a default).lo : ℚ) : ℝ)) (fun a : Fin d => (((axes.getD a default).dx : ℚ) : ℝ)) n)
          : EuclideanSpace ℝ (Fin d)) - toLp 2 (fun a : Fin d => ((ctr.getD a 0 : ℚ) : ℝ))‖ < (R : ℝ) := by
  subst hd
  exact ⟨latticeSet axes ctr R, latticeSet_card axes ctr h R, latticeSet_sub axes ctr h R hR⟩

/-! ### the located radius -/

theorem halfDiag_le (ρ : ℚ) (hρ : 0 ≤ ρ)
    (hdiag : ∑ a ∈ Finset.range axes.length, ((axes.getD a default).dx / 2) ^ 2 ≤ ρ ^ 2) :
    halfDiag (fun a : Fin axes.length => (((axes.getD a default).dx : ℚ) : ℝ)) ≤ (ρ : ℝ) := by
  have e : halfDiag (fun a : Fin axes.length => (((axes.getD a default).dx : ℚ) : ℝ)) =
      ‖(toLp 2 fun a : Fin axes.length => (((axes.getD a default).dx / 2 : ℚ) : ℝ) : EuclideanSpace ℝ (Fin axes.length))‖ := by
    unfold halfDiag; push_cast; rfl
  rw [e, ← pow_le_pow_iff_left₀ (norm_nonneg _) (by exact_mod_cast hρ) two_ne_zero, norm_sq_cast _ fun a => (axes.getD a default).dx / 2]
  exact_mod_cast hdiag

theorem dx_pos_real (h : GridWF axes ctr) (a : Fin axes.length) : 0 < (((axes.getD a default).dx : ℚ) : ℝ) := by
  exact_mod_cast (axis_wf h a.2).dx_pos

theorem mul_prod_dx_nonneg (h : GridWF axes ctr) (N : ℕ) :
    0 ≤ (N : ℝ) * ∏ a ∈ Finset.range axes.length, (((axes.getD a default).dx : ℚ) : ℝ) :=
  mul_nonneg (Nat.cast_nonneg _) (Finset.prod_nonneg fun a ha => (dx_pos_real axes ctr h ⟨a, Finset.mem_range.mp ha⟩).le)

/-- in the supported dimensions the unit ball has the volume `C12.unitVol d` that the regenerated sphere formulas use -/
theorem volume_ball_unitVol {d : ℕ} (hd : C12.Dim d) (x : EuclideanSpace ℝ (Fin d)) (r : ℝ) :
    MeasureTheory.volume (Metric.ball x r) = ENNReal.ofReal r ^ d * ENNReal.ofReal (C12.unitVol d) := by
  rcases hd with rfl | rfl | rfl
  · exact Lattice.volume_ball_fin_one x r
  · exact EuclideanSpace.volume_ball_fin_two x r
  · rw [EuclideanSpace.volume_ball_fin_three, C12.unitVol]; norm_num [mul_comm, mul_div_assoc]

/-- **The located (equal-volume) radius of a droplet exceeds its radius by at most half a cell diagonal**, in 1, 2 and 3
dimensions: the covered cells are disjoint boxes inside the ball of radius `R + ρ` (packing bound, Lebesgue measure), and
`radius_from_volume` (regenerated from the code) is monotone. -/
theorem located_radius_le (h : GridWF axes ctr) (R : ℚ) (hR : 0 ≤ R) (ρ : ℚ) (hρ : 0 ≤ ρ)
    (hdiag : ∑ a ∈ Finset.range axes.length, ((axes.getD a default).dx / 2) ^ 2 ≤ ρ ^ 2)
    (hd : axes.length = 1 ∨ axes.length = 2 ∨ axes.length = 3) :
    ∃ r : ℝ, Gen.radius_from_volume
        ((((Finset.range (numCells (shapeOf axes))).filter fun c => ballMask axes ctr R c = true).card : ℝ)
          * ∏ a ∈ Finset.range axes.length, (((axes.getD a default).dx : ℚ) : ℝ)) axes.length = .ok r ∧
      0 ≤ r ∧ r ≤ (R : ℝ) + ρ := by
  obtain ⟨r, hr, hr0, hrV⟩ := C12.radius_spec hd (mul_prod_dx_nonneg axes ctr h _)
  refine ⟨r, hr, hr0, ?_⟩
  -- packing: `κ rᵈ` = volume of the covered cells ≤ volume of the ball of radius `R +` half the cell diagonal
  have hb := card_vol_le (volume_ball_unitVol hd) (C12.unitVol_pos _).le (latticeSet axes ctr R) _ _ _ (dx_pos_real axes ctr h) R
    (by exact_mod_cast hR) (latticeSet_sub axes ctr h R hR)
  rw [latticeSet_card axes ctr h R, Fin.prod_univ_eq_prod_range (fun a => (((axes.getD a default).dx : ℚ) : ℝ)), ← hrV,
    mul_comm] at hb
  have := (pow_le_pow_iff_left₀ hr0 (add_nonneg (by exact_mod_cast hR) (halfDiag_nonneg _)) (C12.Dim.ne_zero hd)).mp
    (le_of_mul_le_mul_right hb (C12.unitVol_pos _))
  linarith [halfDiag_le axes ρ hρ hdiag]

/-- **Lower bound: the located radius of a resolved droplet is at least `R − ρ`** (ρ ≥ half the cell diagonal): the ball of radius
`R − ρ` is covered by the boxes of the covered cells (covering bound), and `radius_from_volume` is monotone. -/
theorem located_radius_ge (h : GridWF axes ctr) (R : ℚ) (hres : FullyResolved axes ctr R) (ρ : ℚ) (hρ : 0 ≤ ρ)
    (hdiag : ∑ a ∈ Finset.range axes.length, ((axes.getD a default).dx / 2) ^ 2 ≤ ρ ^ 2)
    (hd : axes.length = 1 ∨ axes.length = 2 ∨ axes.length = 3) :
    ∃ r : ℝ, Gen.radius_from_volume
        ((((Finset.range (numCells (shapeOf axes))).filter fun c => ballMask axes ctr R c = true).card : ℝ)
          * ∏ a ∈ Finset.range axes.length, (((axes.getD a default).dx : ℚ) : ℝ)) axes.length = .ok r ∧
      (R : ℝ) - ρ ≤ r := by
  obtain ⟨r, hr, hr0, hrV⟩ := C12.radius_spec hd (mul_prod_dx_nonneg axes ctr h _)
  refine ⟨r, hr, ?_⟩
  have hhd := halfDiag_le axes ρ hρ hdiag
  by_contra hlt
  -- covering: the ball of radius `R −` half the cell diagonal has at most the volume `κ rᵈ` of the covered cells
  have hb := card_vol_ge (volume_ball_unitVol hd) (latticeSet axes ctr R) _ _ _ (dx_pos_real axes ctr h) R (by linarith)
    (latticeSet_complete axes ctr h R hres (Nat.pos_of_ne_zero (C12.Dim.ne_zero hd)))
  rw [latticeSet_card axes ctr h R, Fin.prod_univ_eq_prod_range (fun a => (((axes.getD a default).dx : ℚ) : ℝ)), ← hrV,
    mul_comm (C12.unitVol _)] at hb
  have := (pow_le_pow_iff_left₀ (by linarith) hr0 (C12.Dim.ne_zero hd)).mp (le_of_mul_le_mul_right hb (C12.unitVol_pos _))
  linarith

/-- **The located radius is within half a cell diagonal of the droplet's radius** (two-sided; 1–3 dimensions, resolved droplet):
together with the half-cell bound on the position this is the accuracy of the initial estimate that refinement (C05) starts from. -/
theorem located_radius_within (h : GridWF axes ctr) (R : ℚ) (hres : FullyResolved axes ctr R) (ρ : ℚ) (hρ : 0 ≤ ρ)
    (hdiag : ∑ a ∈ Finset.range axes.length, ((axes.getD a default).dx / 2) ^ 2 ≤ ρ ^ 2)
    (hd : axes.length = 1 ∨ axes.length = 2 ∨ axes.length = 3) :
    ∃ r : ℝ, Gen.radius_from_volume
        ((((Finset.range (numCells (shapeOf axes))).filter fun c => ballMask axes ctr R c = true).card : ℝ)
          * ∏ a ∈ Finset.range axes.length, (((axes.getD a default).dx : ℚ) : ℝ)) axes.length = .ok r ∧
      |r - (R : ℝ)| ≤ ρ := by
  have hd0 : 0 < axes.length := by omega
  obtain ⟨r1, h1, _, hle⟩ := located_radius_le axes ctr h R (hres 0 hd0).nonneg ρ hρ hdiag hd
  obtain ⟨r2, h2, hge⟩ := located_radius_ge axes ctr h R hres ρ hρ hdiag hd
  obtain rfl : r1 = r2 := Except.ok.inj (h1.symm.trans h2)
  exact ⟨r1, h1, abs_le.mpr ⟨by linarith, by linarith⟩⟩

/-! ### located spheres -/

/-- a cell is no longer than its diagonal: `ρ` ≥ half the cell diagonal bounds every cell size by `2ρ` -/
theorem dx_le_of_halfDiag {ρ : ℚ} (hρ : 0 ≤ ρ)
    (hdiag : ∑ a ∈ Finset.range axes.length, ((axes.getD a default).dx / 2) ^ 2 ≤ ρ ^ 2) : ∀ a ∈ axes, a.dx ≤ 2 * ρ := by
  intro a ha
  obtain ⟨k, hk, rfl⟩ := List.getElem_of_mem ha
  have := (Finset.single_le_sum (f := fun a => ((axes.getD a default).dx / 2) ^ 2) (fun a _ => sq_nonneg _)
    (Finset.mem_range.mpr hk)).trans hdiag
  rw [getD_eq_getElem axes hk] at this
  linarith only [(abs_le_of_sq_le_sq' this hρ).2]

/-- **Located spheres do not overlap.**  Two droplets whose centres are at least `R₁ + R₂ + 4ρ` apart (periodic metric; `ρ` ≥ half
the cell diagonal), located at positions within half a cell per axis of their centres (modulo whole periods on periodic axes)
with radii at most `Rᵢ + ρ`: the located spheres do not overlap under the periodic metric. -/
theorem located_spheres_disjoint {p q : List ℚ} (hp : GridWF axes p) (R1 R2 ρ : ℚ) (h1 : 0 ≤ R1) (h2 : 0 ≤ R2) (hρ : 0 ≤ ρ)
    (hdiag : ∑ a ∈ Finset.range axes.length, ((axes.getD a default).dx / 2) ^ 2 ≤ ρ ^ 2)
    (hsep : (R1 + R2 + 4 * ρ) ^ 2 ≤ cdist2 axes p q)
    (P Q : List ℚ)
    (hP : ∀ a, a < axes.length → ∃ m : ℤ, ((axes.getD a default).periodic = false → m = 0) ∧
      |P.getD a 0 - (m : ℚ) * (axes.getD a default).length - p.getD a 0| < (axes.getD a default).dx / 2)
    (hQ : ∀ a, a < axes.length → ∃ m : ℤ, ((axes.getD a default).periodic = false → m = 0) ∧
      |Q.getD a 0 - (m : ℚ) * (axes.getD a default).length - q.getD a 0| < (axes.getD a default).dx / 2)
    (r1 r2 : ℝ) (hr1 : 0 ≤ r1) (hr2 : 0 ≤ r2) (hr1' : r1 ≤ (R1 : ℝ) + ρ) (hr2' : r2 ≤ (R2 : ℝ) + ρ) :
    (r1 + r2) ^ 2 ≤ ((cdist2 axes P Q : ℚ) : ℝ) := by
  by_contra hcon
  push Not at hcon
  set T : ℚ := R1 + R2 + 2 * ρ with hT
  have hlt : ∑ a ∈ Finset.range axes.length, cdiff axes P Q a ^ 2 < T ^ 2 := by
    have : ((cdist2 axes P Q : ℚ) : ℝ) < ((T ^ 2 : ℚ) : ℝ) := by
      refine lt_of_lt_of_le hcon ?_
      push_cast
      exact pow_le_pow_left₀ (by linarith) (by rw [hT]; push_cast; linarith) 2
    exact_mod_cast this
  choose! m1 hm1 using hP
  choose! m2 hm2 using hQ
  -- a position error below half a cell per axis is at most `ρ` long
  have hesum : ∀ (e : ℕ → ℚ), (∀ a, a < axes.length → |e a| < (axes.getD a default).dx / 2) →
      ∑ a ∈ Finset.range axes.length, e a ^ 2 ≤ ρ ^ 2 := fun e he =>
    (Finset.sum_le_sum fun a ha => (sq_lt_sq' (neg_lt_of_abs_lt (he a (Finset.mem_range.mp ha)))
      (lt_of_abs_lt (he a (Finset.mem_range.mp ha)))).le).trans hdiag
  -- `p − q = (P − Q) − (P − p) + (Q − q)` modulo whole periods
  have := cdist2_lt_of_three axes hp q (fun a => cdiff axes P Q a)
    (fun a => -(P.getD a 0 - (m1 a : ℚ) * (axes.getD a default).length - p.getD a 0))
    (fun a => Q.getD a 0 - (m2 a : ℚ) * (axes.getD a default).length - q.getD a 0) T ρ ρ (by positivity) hρ hρ hlt
    (by simpa only [neg_sq] using hesum _ fun a ha => (hm1 a ha).2) (hesum _ fun a ha => (hm2 a ha).2) fun a ha => by
      obtain ⟨k, hk0, hk⟩ := cdiff_rep axes P Q a
      exact ⟨k + m1 a - m2 a, fun hper => by rw [hk0 hper, (hm1 a ha).1 hper, (hm2 a ha).1 hper]; rfl, by
        rw [hk]; push_cast; ring⟩
  exact absurd (hsep.trans_lt this) (by rw [show T + ρ + ρ = R1 + R2 + 4 * ρ by rw [hT]; ring]; exact lt_irrefl _)

/-- **C01, last step: the overlap filter has nothing to remove.**  Any number of droplets on a well-formed Cartesian grid in
1–3 dimensions (anisotropic spacing, any periodicity), each resolved, with centres pairwise at least `Rᵢ + Rⱼ + 4ρ` apart
under the grid's periodic metric (`ρ` ≥ half the cell diagonal): the droplets LOCATED by the model pipeline — position
from the merge loop, radius = `radius_from_volume` (regenerated from the code) of the cluster's volume — are spheres that do
not overlap under the periodic metric: `(rᵢ + rⱼ)² ≤ dist²(posᵢ, posⱼ)`, i.e. every entry of the surface-distance matrix
is ≥ 0, so `remove_overlapping` returns the emulsion unchanged (`DV.C10.loop_noop`) and exactly one droplet per original
is returned. -/
theorem C01_located_spheres_disjoint (balls : List (List ℚ × ℚ)) (hwf : ∀ b ∈ balls, GridWF axes b.1)
    (hd3 : axes.length = 1 ∨ axes.length = 2 ∨ axes.length = 3) (ρ : ℚ) (hρ : 0 ≤ ρ)
    (hdiag : ∑ a ∈ Finset.range axes.length, ((axes.getD a default).dx / 2) ^ 2 ≤ ρ ^ 2)
    (hdist : ∀ b1 ∈ balls, ∀ b2 ∈ balls, b1 ≠ b2 → (b1.2 + b2.2 + 4 * ρ) ^ 2 ≤ cdist2 axes b1.1 b2.1)
    (hres : ∀ b ∈ balls, FullyResolved axes b.1 b.2)
    (b1 b2 : List ℚ × ℚ) (hb1 : b1 ∈ balls) (hb2 : b2 ∈ balls) (hne : b1 ≠ b2)
    (c1 c2 : ℕ) (hc1 : ballMask axes b1.1 b1.2 c1 = true) (hc2 : ballMask axes b2.1 b2.2 c2 = true) :
    let mask := emulsionMask axes balls
    let L := labelFn (shapeOf axes) mask
    let cells := List.range (numCells (shapeOf axes))
    let st := mergeLoop (fun a => (shapeOf axes).getD a 1) L (initSt (coordOf (shapeOf axes)) L cells)
      (edgesOf (shapeOf axes) (perOf axes))
    let pos := fun c0 : ℕ => (List.range axes.length).map fun a =>
      (axes.getD a default).lo + (axes.getD a default).dx * st.pos (st.lab c0) a
    let cellVol : ℝ := ∏ a ∈ Finset.range axes.length, (((axes.getD a default).dx : ℚ) : ℝ)
    ∃ r1 r2 : ℝ, Gen.radius_from_volume (((st.vol (st.lab c1) : ℚ) : ℝ) * cellVol) axes.length = .ok r1 ∧
      Gen.radius_from_volume (((st.vol (st.lab c2) : ℚ) : ℝ) * cellVol) axes.length = .ok r2 ∧
      0 ≤ r1 ∧ 0 ≤ r2 ∧ (r1 + r2) ^ 2 ≤ ((cdist2 axes (pos c1) (pos c2) : ℚ) : ℝ) := by
  intro mask L cells st pos cellVol
  have hd : 0 < axes.length := by omega
  have hR : ∀ b ∈ balls, 0 ≤ b.2 := fun b hb => (hres b hb 0 hd).nonneg
  have hh := dx_le_of_halfDiag axes hρ hdiag
  have hdist' : ∀ b1 ∈ balls, ∀ b2 ∈ balls, b1 ≠ b2 → (b1.2 + b2.2 + 2 * ρ) ^ 2 ≤ cdist2 axes b1.1 b2.1 := by
    intro x hx y hy hxy
    refine le_trans ?_ (hdist x hx y hy hxy)
    have := hR x hx; have := hR y hy
    apply pow_le_pow_left₀ (by positivity)
    linarith
  have hsep := separated_of_pairwise_distance axes balls hwf hR (2 * ρ) hh (by positivity) hdist'
  obtain ⟨_, hv1, m1, hm10, hm1⟩ := emulsion_droplet_located axes balls hwf hsep hd b1 hb1 (hres b1 hb1) c1 hc1
  obtain ⟨_, hv2, m2, hm20, hm2⟩ := emulsion_droplet_located axes balls hwf hsep hd b2 hb2 (hres b2 hb2) c2 hc2
  obtain ⟨r1, hr1, hr10, hr1le⟩ := located_radius_le axes b1.1 (hwf b1 hb1) b1.2 (hR b1 hb1) ρ hρ hdiag hd3
  obtain ⟨r2, hr2, hr20, hr2le⟩ := located_radius_le axes b2.1 (hwf b2 hb2) b2.2 (hR b2 hb2) ρ hρ hdiag hd3
  refine ⟨r1, r2, ?_, ?_, hr10, hr20, ?_⟩
  · show Gen.radius_from_volume (((st.vol (st.lab c1) : ℚ) : ℝ) * cellVol) axes.length = .ok r1
    rw [hv1]; push_cast; exact hr1
  · show Gen.radius_from_volume (((st.vol (st.lab c2) : ℚ) : ℝ) * cellVol) axes.length = .ok r2
    rw [hv2]; push_cast; exact hr2
  · apply located_spheres_disjoint axes (hwf b1 hb1) b1.2 b2.2 ρ (hR b1 hb1) (hR b2 hb2) hρ hdiag (hdist b1 hb1 b2 hb2 hne)
      (pos c1) (pos c2) _ _ r1 r2 hr10 hr20 hr1le hr2le
    · intro a ha
      refine ⟨m1 a, hm10 a ha, ?_⟩
      rw [getD_map_range _ ha]
      exact hm1 a ha
    · intro a ha
      refine ⟨m2 a, hm20 a ha, ?_⟩
      rw [getD_map_range _ ha]
      exact hm2 a ha

/-- non-vacuity of the separation hypotheses of `C01_located_spheres_disjoint`: the two droplets of radius 3/2 at (3,3)
and (9,9) on the 12×12 periodic unit grid, ρ = 3/4 ≥ √2/2 -/
example : ∑ a ∈ Finset.range axes12.length, ((axes12.getD a default).dx / 2) ^ 2 ≤ ((3 : ℚ) / 4) ^ 2 := by decide +kernel
example : ((3/2 : ℚ) + 3/2 + 4 * (3/4)) ^ 2 ≤ cdist2 axes12 [3, 3] [9, 9] := by decide +kernel

end DV.C01
