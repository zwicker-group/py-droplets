/-
  Cylindrical grids (model of `_locate_droplets_in_mask_cylindrical`, `Model/Cyl.lean`): an on-axis droplet, z periodic or not.
-/
import DropletsVerif.Props.C01.Emulsion
import DropletsVerif.Props.C02.Cyl

namespace DV.C01
open DV.Merge DV.Label DV.LabelInv DV.Render DV.BallConn DV.WrapDiff DV.C02 DV.Cyl

theorem abs_lt_of_sq_add_sq_lt {a x R : ℚ} (hR : 0 ≤ R) (h : a ^ 2 + x ^ 2 < R ^ 2) : |x| < R :=
  abs_lt_of_sq_lt_sq (lt_of_le_of_lt (le_add_of_nonneg_left (sq_nonneg a)) h) hR

/-! ### cylindrical grids: an on-axis droplet (non-periodic z) -/

/-- the (r, z) half-plane of a cylindrical grid as a 2-axis grid: r starts at 0 -/
def cylAxes (dr zlo dz : ℚ) (nr nz : ℕ) : List Axis := [⟨0, dr, nr, false⟩, ⟨zlo, dz, nz, false⟩]

/-- height of the cell centres of z index `j` above a droplet at height `z0` -/
def zoff (zlo dz z0 : ℚ) (j : ℕ) : ℚ := zlo + ((j : ℚ) + 1 / 2) * dz - z0

section cyl
variable (dr zlo dz : ℚ) (nr nz : ℕ) (z0 R : ℚ)

/-- sharp image of a droplet centred ON the symmetry axis at height `z0` -/
def cylMask : ℕ → Bool := ballMask (cylAxes dr zlo dz nr nz) [0, z0] R

theorem cyl_shape : shapeOf (cylAxes dr zlo dz nr nz) = [nr, nz] := rfl
theorem cyl_per : perOf (cylAxes dr zlo dz nr nz) = [false, false] := rfl
theorem cyl_numCells : numCells [nr, nz] = nr * nz := by simp [numCells]
theorem cyl_unflat (c : ℕ) : unflat [nr, nz] c = [c / nz % nr, c % nz] := by simp [unflat]

variable {dr zlo dz nr nz z0 R}

theorem cyl_wf (hdr : 0 < dr) (hdz : 0 < dz) (hnr : 0 < nr) (hnz : 0 < nz) {ctr : List ℚ} (hc : ctr.length = 2) :
    GridWF (cylAxes dr zlo dz nr nz) ctr := by
  refine ⟨?_, hc⟩
  intro a ha
  simp only [cylAxes, List.mem_cons, List.not_mem_nil, or_false] at ha
  rcases ha with rfl | rfl
  · exact ⟨hdr, hnr⟩
  · exact ⟨hdz, hnz⟩

theorem cyl_gridConn_iff (hnr : 0 < nr) (hnz : 0 < nz) (mask : ℕ → Bool) {a b : ℕ} :
    GridConn [nr, nz] [false, false] mask a b ↔ MaskConn mask (inboxEdges [nr, nz]) a b :=
  gridConn_nonperiodic _ _ _ (by simp [hnr, hnz]) (by intro ax; rcases ax with _ | _ | ax <;> rfl)

theorem cdist2_cyl (a z a' z' : ℚ) :
    cdist2 (cylAxes dr zlo dz nr nz) [a, z] [a', z'] = (a - a') ^ 2 + (z - z') ^ 2 := by
  simp [cdist2, cdiff, cylAxes, Finset.sum_range_succ]

/-- the cells an on-axis droplet covers on an (r, z) grid, z periodic or not: cell `c` has radial index `c / nz` and
z index `c % nz` -/
theorem rzMask_iff (per : Bool) (hnz : 0 < nz) (c : ℕ) :
    ballMask [⟨0, dr, nr, false⟩, ⟨zlo, dz, nz, per⟩] [0, z0] R c = true ↔ c / nz < nr ∧
      ((((c / nz : ℕ) : ℚ) + 1 / 2) * dr) ^ 2 +
        (if per then wrapDiff (dz * nz) (zoff zlo dz z0 (c % nz)) else zoff zlo dz z0 (c % nz)) ^ 2 < R ^ 2 := by
  rw [ballMask_iff, show shapeOf _ = [nr, nz] from rfl, cyl_numCells, ← Nat.div_lt_iff_lt_mul hnz]
  refine and_congr_right fun h => ?_
  unfold D
  rw [show shapeOf _ = [nr, nz] from rfl, cyl_unflat, Nat.mod_eq_of_lt h]
  simp only [dist2, List.zip_cons_cons, List.zip_nil_right, List.map_cons, List.map_nil, List.sum_cons, List.sum_nil]
  -- two squared `Axis.diff`: along r the centre `(i + ½) dr` minus 0, along z the plain or the periodic difference of `zoff`
  cases per <;> simp [Axis.diff, Axis.centre, Axis.length, zoff, sq]

theorem cylMask_iff (hnz : 0 < nz) (c : ℕ) : cylMask dr zlo dz nr nz z0 R c = true ↔
    c / nz < nr ∧ ((((c / nz : ℕ) : ℚ) + 1 / 2) * dr) ^ 2 + zoff zlo dz z0 (c % nz) ^ 2 < R ^ 2 :=
  rzMask_iff false hnz c

theorem cylMask_lt {c : ℕ} (hc : cylMask dr zlo dz nr nz z0 R c = true) : c < nr * nz :=
  cyl_numCells nr nz ▸ ballMask_lt hc

theorem cylMask_abs_z (hR : 0 ≤ R) {c : ℕ} (hc : cylMask dr zlo dz nr nz z0 R c = true) :
    |zoff zlo dz z0 (c % nz)| < R := by
  have hnz : 0 < nz := Nat.pos_of_ne_zero (by rintro rfl; simpa using cylMask_lt hc)
  exact abs_lt_of_sq_add_sq_lt hR ((cylMask_iff hnz c).mp hc).2

theorem cyl_U (c : ℕ) : U (cylAxes dr zlo dz nr nz) [0, z0] c 1 = zoff zlo dz z0 (c % nz) := by
  rw [U_eq, cyl_shape]
  unfold coordOf
  rw [cyl_unflat]
  simp [cylAxes, Axis.diff, Axis.centre, zoff]

end cyl

section cylball
variable (dr zl dz : ℚ) (nr nzI : ℕ) (z R : ℚ)

/-- the cells covered by an on-axis droplet, as a cluster of the cylindrical routine -/
def cylCov : List ℕ := (List.range (nr * nzI)).filter (cylMask dr zl dz nr nzI z R)

section
variable {dr zl dz nr nzI z R}

theorem mem_cylCov (c : ℕ) : c ∈ cylCov dr zl dz nr nzI z R ↔ cylMask dr zl dz nr nzI z R c = true := by
  unfold cylCov
  rw [List.mem_filter, List.mem_range, and_iff_right_iff_imp]
  exact cylMask_lt

theorem cylCov_ne_nil : cylCov dr zl dz nr nzI z R ≠ [] ↔ ∃ c, cylMask dr zl dz nr nzI z R c = true := by
  constructor
  · exact fun h => (List.exists_mem_of_ne_nil _ h).imp fun c => (mem_cylCov c).mp
  · exact fun ⟨c, hc⟩ => List.ne_nil_of_mem ((mem_cylCov c).mpr hc)

theorem cylCov_zpos_eq (lbl : ℕ) : Cluster.zpos nzI ⟨lbl, cylCov dr zl dz nr nzI z R⟩ =
    (∑ c ∈ (Finset.range (nr * nzI)).filter (fun c => cylMask dr zl dz nr nzI z R c = true), ((c % nzI : ℕ) : ℚ)) /
      (((Finset.range (nr * nzI)).filter fun c => cylMask dr zl dz nr nzI z R c = true).card : ℚ) + 1 / 2 := by
  rw [zpos_eq, ← list_filter_sum, ← list_filter_card]
  rfl

theorem cylCov_weight_eq (lbl : ℕ) : Cluster.weight nzI ⟨lbl, cylCov dr zl dz nr nzI z R⟩ =
    ∑ c ∈ (Finset.range (nr * nzI)).filter (fun c => cylMask dr zl dz nr nzI z R c = true), (2 * (c / nzI) + 1) := by
  rw [weight_eq, ← list_filter_sum]
  rfl

/-- a droplet that covers a cell covers the cell of the same height on the axis -/
theorem cylCov_onAxis (hdr : 0 < dr) (hnr : 0 < nr) (hnz : 0 < nzI) (lbl : ℕ)
    (hne : ∃ c, cylMask dr zl dz nr nzI z R c = true) :
    Cluster.onAxis nzI (⟨lbl, cylCov dr zl dz nr nzI z R⟩ : Cluster) = true := by
  obtain ⟨c0, hc0⟩ := hne
  obtain ⟨_, hd⟩ := (cylMask_iff hnz c0).mp hc0
  have h0 : c0 % nzI / nzI = 0 := Nat.div_eq_of_lt (Nat.mod_lt _ hnz)
  rw [onAxis_iff]
  refine ⟨c0 % nzI, (mem_cylCov _).mpr ((cylMask_iff hnz _).mpr ?_), h0⟩
  rw [h0, Nat.mod_mod]
  have hr : ((0 : ℕ) + 1 / 2 : ℚ) * dr ≤ (((c0 / nzI : ℕ) : ℚ) + 1 / 2) * dr :=
    mul_le_mul_of_nonneg_right (by simp) hdr.le
  exact ⟨hnr, lt_of_le_of_lt (add_le_add_left (pow_le_pow_left₀ (by positivity) hr 2) _) hd⟩

end

/-- **half-cell bound for the height of a droplet that lies inside the image along z** -/
theorem cylCov_zpos (hdr : 0 < dr) (hdz : 0 < dz) (hnr : 0 < nr) (hnz : 0 < nzI) (hR : 0 ≤ R) (lbl : ℕ)
    (hbox : zl + R ≤ z ∧ z + R ≤ zl + dz * nzI) (hne : ∃ c, cylMask dr zl dz nr nzI z R c = true) :
    |zl + Cluster.zpos nzI (⟨lbl, cylCov dr zl dz nr nzI z R⟩ : Cluster) * dz - z| < dz / 2 := by
  have hSne : ((Finset.range (nr * nzI)).filter fun c => cylMask dr zl dz nr nzI z R c = true).Nonempty :=
    hne.imp fun c hc => (mem_filter_range (fun c => cylMask_lt) c).mpr hc
  -- `ball_offset_mean` along z: the droplet lies inside the box
  have h := ball_offset_mean (cylAxes dr zl dz nr nzI) [0, z] (cyl_wf hdr hdz hnr hnz rfl) R (k := 1)
    (by simp [cylAxes]) ⟨hR, fun hp => by simp [cylAxes] at hp, fun _ => hbox⟩ (by rwa [cyl_shape, cyl_numCells])
  rw [cyl_shape, cyl_numCells] at h
  simp only [cyl_U] at h
  -- the offsets are `dz · (z index) + (zl + dz/2 − z)`
  have := abs_affine_mean_lt hSne (fun c => ((c % nzI : ℕ) : ℚ)) dz (zl + dz / 2 - z) (dz / 2)
    (by rw [← Finset.sum_congr rfl fun c _ => show zoff zl dz z (c % nzI) = _ by unfold zoff; ring]; exact h)
  rw [cylCov_zpos_eq]
  convert this using 2
  ring

end cylball

section cyl
variable (dr zlo dz : ℚ) (nr nz : ℕ) (z0 R : ℚ)

/-- **C01 on a cylindrical grid (non-periodic z), for the model of `_locate_droplets_in_mask_cylindrical`.**
A droplet centred on the symmetry axis that lies inside the box along z and covers at least one cell centre
yields exactly ONE candidate; its volume weight is the sum of the weights `2 i_r + 1` (cell volume / π dr² dz)
of exactly the covered cells, and its height is within HALF A CELL of the droplet's. -/
theorem C01_cylinder_model (hdr : 0 < dr) (hdz : 0 < dz) (hnr : 0 < nr) (hnz : 0 < nz) (hR : 0 ≤ R)
    (hbox : zlo + R ≤ z0 ∧ z0 + R ≤ zlo + dz * nz) (hne : ∃ c, cylMask dr zlo dz nr nz z0 R c = true) :
    ∃ zp : ℚ, Cyl.candidates nr nz false (cylMask dr zlo dz nr nz z0 R) =
        some [(zp, (((List.range (nr * nz)).filter (cylMask dr zlo dz nr nz z0 R)).map fun c => 2 * (c / nz) + 1).sum)] ∧
      |zlo + zp * dz - z0| < dz / 2 := by
  -- the covered cells are connected (`ball_connected`), so they form the one cluster of the image
  obtain ⟨lbl, hcl⟩ : ∃ lbl, clustersOf (labelExec [nr, nz] (cylMask dr zlo dz nr nz z0 R)) = [⟨lbl, cylCov dr zlo dz nr nz z0 R⟩] := by
    rw [cylCov, ← cyl_numCells]
    refine clustersOf_connected [nr, nz] _ (fun c hc => ?_) (fun c1 c2 m1 m2 => ?_) hne
    · rw [cyl_numCells]
      exact cylMask_lt hc
    · exact (cyl_gridConn_iff hnr hnz _).mp (ball_connected _ [0, z0] (cyl_wf hdr hdz hnr hnz rfl) R m1 m2)
  have hs := single_eq_map nr nz nz (cylMask dr zlo dz nr nz z0 R)
    (by rw [hcl]; simpa using cylCov_onAxis hdr hnr hnz lbl hne) (fun cl _ => not_spans_self hnz cl)
  rw [hcl, List.map_singleton, weight_eq, ← candidates_nonperiodic] at hs
  exact ⟨_, hs, cylCov_zpos dr zlo dz nr nz z0 R hdr hdz hnr hnz hR lbl hbox hne⟩

end cyl

/-- non-vacuity: 4 × 8 cells of size 1, droplet of radius 2.2 on the axis at height 4.3: the hypotheses hold and the
executed model returns one candidate at 59/14 ≈ 4.21 cells (within half a cell of 4.3) of weight 13 -/
example : cylMask 1 0 1 4 8 (43/10) (11/5) 4 = true := by decide +kernel
example : Cyl.candidates 4 8 false (cylMask 1 0 1 4 8 (43/10) (11/5)) = some [(59/14, 13)] := by decide +kernel

/-! ### several droplets on a non-periodic (r, z) grid -/

/-- **The clusters of a labelled image are its label classes**: every cluster is the set of all cells carrying the
label of some image cell, and every image cell's label class is a cluster. -/
theorem clustersOf_classes (shape : List ℕ) (mask : ℕ → Bool) (hmask : ∀ c, mask c = true → c < numCells shape) :
    let L := labelFn shape mask
    (∀ cl ∈ clustersOf (labelExec shape mask), ∃ c0, mask c0 = true ∧
      cl.cells = (List.range (numCells shape)).filter fun c => L c == L c0) ∧
    (∀ c0, mask c0 = true → ∃ cl ∈ clustersOf (labelExec shape mask),
      cl.cells = (List.range (numCells shape)).filter fun c => L c == L c0) := by
  intro L
  obtain ⟨-, hcls, hall⟩ := clustersOf_reps shape mask hmask
  refine ⟨fun cl hcl => ?_, fun c0 m0 => ?_⟩
  · obtain ⟨c0, m0, -, hcells⟩ := hcls cl hcl
    exact ⟨c0, m0, hcells⟩
  · obtain ⟨cl, hcl, hlab⟩ := hall c0 m0
    obtain ⟨c1, -, h1, hcells⟩ := hcls cl hcl
    exact ⟨cl, hcl, by rw [hcells, h1, hlab]⟩

/-- **Several droplets on a non-periodic (r, z) grid: the clusters found by the cylindrical routine are the droplets.**
If the rendered droplets are separated on the grid, every cluster of the labelled image consists of exactly the cells
covered by one droplet, and every droplet that covers a cell is a cluster. -/
theorem cyl_clusters_are_balls (dr zl dz : ℚ) (nr nzI : ℕ) (hdr : 0 < dr) (hdz : 0 < dz) (hnr : 0 < nr) (hnz : 0 < nzI)
    (balls : List (List ℚ × ℚ)) (hlen : ∀ b ∈ balls, b.1.length = 2)
    (hsep : Separated (cylAxes dr zl dz nr nzI) balls) :
    let axes := cylAxes dr zl dz nr nzI
    let mask := emulsionMask axes balls
    (∀ cl ∈ clustersOf (labelExec [nr, nzI] mask), ∃ b ∈ balls, (∃ c, ballMask axes b.1 b.2 c = true) ∧
      cl.cells = (List.range (nr * nzI)).filter (ballMask axes b.1 b.2)) ∧
    (∀ b ∈ balls, (∃ c, ballMask axes b.1 b.2 c = true) → ∃ cl ∈ clustersOf (labelExec [nr, nzI] mask),
      cl.cells = (List.range (nr * nzI)).filter (ballMask axes b.1 b.2)) := by
  intro axes mask
  have hwf : ∀ b ∈ balls, GridWF axes b.1 := fun b hb => cyl_wf hdr hdz hnr hnz (hlen b hb)
  obtain ⟨hcl1, hcl2⟩ := clustersOf_classes [nr, nzI] mask fun _ => emulsionMask_lt
  rw [cyl_numCells] at hcl1 hcl2
  -- the label class of a cell of droplet `b` is `b`: `comp_label_iff`, where without periodic pairs the merging loop does nothing
  have hclass : ∀ b ∈ balls, ∀ c0, ballMask axes b.1 b.2 c0 = true → ∀ c,
      (labelFn [nr, nzI] mask c == labelFn [nr, nzI] mask c0) = ballMask axes b.1 b.2 c := by
    intro b hb c0 hc0 c
    have := (comp_label_iff (hwf b hb) (emulsion_compIsBall axes balls hwf hsep b hb c0 hc0) (fun _ _ => 0) [] fun _ => 0).2 c
    rw [show edgesOf (shapeOf axes) (perOf axes) = [] from
      GridGeom.edgesOf_nonperiodic _ _ (by intro ax; rcases ax with _ | _ | ax <;> rfl)] at this
    rw [Bool.eq_iff_iff, beq_iff_eq]
    exact this
  constructor
  · intro cl hcl
    obtain ⟨c0, m0, hcells⟩ := hcl1 cl hcl
    obtain ⟨b, hb, hc0⟩ := (emulsionMask_iff axes balls c0).mp m0
    exact ⟨b, hb, ⟨c0, hc0⟩, hcells.trans (List.filter_congr fun c _ => hclass b hb c0 hc0 c)⟩
  · rintro b hb ⟨c0, hc0⟩
    obtain ⟨cl, hcl, hcells⟩ := hcl2 c0 ((emulsionMask_iff axes balls c0).mpr ⟨b, hb, hc0⟩)
    exact ⟨cl, hcl, hcells.trans (List.filter_congr fun c _ => hclass b hb c0 hc0 c)⟩

/-! ### cylindrical grids with periodic z: the padded analysis -/

theorem cell_div {n j : ℕ} (hj : j < n) (i : ℕ) : (i * n + j) / n = i := by
  rw [Nat.add_comm, Nat.add_mul_div_right _ _ (Nat.zero_lt_of_lt hj), Nat.div_eq_of_lt hj, Nat.zero_add]

theorem cast_mod_add_div (J n : ℕ) : ((J % n : ℕ) : ℚ) + ((J / n : ℕ) : ℚ) * n = J := by
  exact_mod_cast Nat.mod_add_div' J n

section cylper
variable (dr zlo dz : ℚ) (nr nz : ℕ) (z0 R : ℚ)

/-- sharp PERIODIC image of a droplet centred on the axis at height `z0` (the rendering of C03 on a cylindrical grid
that is periodic in z) -/
def cylMaskP : ℕ → Bool := ballMask [⟨0, dr, nr, false⟩, ⟨zlo, dz, nz, true⟩] [0, z0] R

/-- the `k`-th periodic image of the droplet -/
def ballAt (k : ℤ) : List ℚ × ℚ := ([0, z0 + (k : ℚ) * (dz * nz)], R)

/-- the five periodic images of the droplet that can reach into the padded image -/
def balls5 : List (List ℚ × ℚ) :=
  [ballAt dz nz z0 R (-2), ballAt dz nz z0 R (-1), ballAt dz nz z0 R 0, ballAt dz nz z0 R 1, ballAt dz nz z0 R 2]

/-- fold a cell of the padded image back into the box -/
def foldCell (c : ℕ) : ℕ := c / (3 * nz) * nz + c % (3 * nz) % nz

/-- number of periods by which the periodic difference of cell `c` (of the box) was wrapped -/
def wrapsOf (c : ℕ) : ℚ :=
  ((zlo + (((c % nz : ℕ) : ℚ) + 1 / 2) * dz - z0) - wrapDiff (dz * nz) (zlo + (((c % nz : ℕ) : ℚ) + 1 / 2) * dz - z0)) / (dz * nz)

section
variable {dr zlo dz nr nz z0 R}

theorem cylMaskP_iff (hnz : 0 < nz) (c : ℕ) : cylMaskP dr zlo dz nr nz z0 R c = true ↔ c / nz < nr ∧
    ((((c / nz : ℕ) : ℚ) + 1 / 2) * dr) ^ 2 + wrapDiff (dz * nz) (zoff zlo dz z0 (c % nz)) ^ 2 < R ^ 2 :=
  rzMask_iff true hnz c

theorem cylMaskP_lt {c : ℕ} (hc : cylMaskP dr zlo dz nr nz z0 R c = true) : c < nr * nz :=
  cyl_numCells nr nz ▸ ballMask_lt hc

theorem mem_balls5 (b : List ℚ × ℚ) : b ∈ balls5 dz nz z0 R ↔ ∃ k : ℤ, -2 ≤ k ∧ k ≤ 2 ∧ b = ballAt dz nz z0 R k := by
  have hk : ∀ k : ℤ, k ∈ ([-2, -1, 0, 1, 2] : List ℤ) ↔ -2 ≤ k ∧ k ≤ 2 := fun k => by
    simp only [List.mem_cons, List.not_mem_nil, or_false]
    omega
  show b ∈ ([-2, -1, 0, 1, 2] : List ℤ).map (ballAt dz nz z0 R) ↔ _
  simp only [List.mem_map, hk, and_assoc, eq_comm]

theorem foldCell_div (hnz : 0 < nz) (c : ℕ) : foldCell nz c / nz = c / (3 * nz) :=
  cell_div (Nat.mod_lt _ hnz) _

theorem foldCell_mod (c : ℕ) : foldCell nz c % nz = c % (3 * nz) % nz := by
  unfold foldCell
  rw [Nat.add_comm, Nat.add_mul_mod_self_right, Nat.mod_mod]

/-- the cell of the padded image with radial index `i` that shows column `j` of the box in its copy `m` -/
theorem padded_cell {j m : ℕ} (hj : j < nz) (hm : m ≤ 2) (i : ℕ) :
    (i * (3 * nz) + (m * nz + j)) / (3 * nz) = i ∧ (i * (3 * nz) + (m * nz + j)) % (3 * nz) % nz = j ∧
      (i * (3 * nz) + (m * nz + j)) % (3 * nz) / nz = m := by
  have hJ : m * nz + j < 3 * nz := by
    calc m * nz + j < (m + 1) * nz := by rw [Nat.succ_mul]; omega
      _ ≤ 3 * nz := Nat.mul_le_mul_right _ (by omega)
  rw [Nat.mul_add_mod_of_lt hJ]
  exact ⟨cell_div hJ i, Nat.mul_add_mod_of_lt hj, cell_div hj m⟩

theorem wrapsOf_eq {c : ℕ} {t : ℤ} (hL : dz * nz ≠ 0)
    (h : wrapDiff (dz * nz) (zoff zlo dz z0 (c % nz)) = zoff zlo dz z0 (c % nz) + t * (dz * nz)) :
    wrapsOf zlo dz nz z0 c = -t := by
  unfold wrapsOf
  unfold zoff at h
  rw [h, sub_add_cancel_left, neg_div, mul_div_cancel_right₀ _ hL]

/-- the cell centres of the box lie strictly inside it -/
theorem centre_bounds (hdz : 0 < dz) {j : ℕ} (hj : j < nz) :
    0 < ((j : ℚ) + 1 / 2) * dz ∧ ((j : ℚ) + 1 / 2) * dz < dz * nz := by
  have : (j : ℚ) + 1 ≤ nz := by exact_mod_cast hj
  refine ⟨by positivity, ?_⟩
  rw [mul_comm dz]
  exact mul_lt_mul_of_pos_right (by linarith only [this]) hdz

theorem abs_zoff_lt (hdz : 0 < dz) (hz0 : zlo ≤ z0 ∧ z0 < zlo + dz * nz) {j : ℕ} (hj : j < nz) :
    |zoff zlo dz z0 j| < dz * nz := by
  obtain ⟨h1, h2⟩ := centre_bounds hdz hj
  unfold zoff
  exact abs_lt.mpr ⟨by linarith only [h1, hz0.2], by linarith only [h2, hz0.1]⟩

/-- the three-fold grid seen from the `k`-th image: z index `J = j + m nz` shows the box cell `j`, `m − 1 − k` periods away -/
theorem zoff_padded (J : ℕ) (k : ℤ) :
    zoff (zlo - dz * nz) dz (z0 + (k : ℚ) * (dz * nz)) J
      = zoff zlo dz z0 (J % nz) + ((((J / nz : ℕ) : ℤ) - 1 - k : ℤ) : ℚ) * (dz * nz) := by
  unfold zoff
  rw [← cast_mod_add_div J nz, Int.cast_sub, Int.cast_sub, Int.cast_one, Int.cast_natCast]
  ring

end

/-- **The wrap-padded image of the periodic rendering is the NON-periodic rendering of the droplet's periodic images
on the three-fold grid.** -/
theorem padded_eq_emulsion (hdz : 0 < dz) (hnz : 0 < nz) (hz0 : zlo ≤ z0 ∧ z0 < zlo + dz * nz) (c : ℕ) :
    padded nz (cylMaskP dr zlo dz nr nz z0 R) c =
      emulsionMask (cylAxes dr (zlo - dz * nz) dz nr (3 * nz)) (balls5 dz nz z0 R) c := by
  have hL : 0 < dz * nz := mul_pos hdz (by exact_mod_cast hnz)
  have h3 : 0 < 3 * nz := by omega
  have hm2 : c % (3 * nz) / nz ≤ 2 :=
    Nat.le_of_lt_succ (Nat.div_lt_of_lt_mul (by rw [Nat.mul_comm nz 3]; exact Nat.mod_lt _ h3))
  generalize hm : c % (3 * nz) / nz = m at hm2
  have hw := abs_zoff_lt hdz hz0 (Nat.mod_lt (c % (3 * nz)) hnz)
  rw [Bool.eq_iff_iff, emulsionMask_iff]
  show cylMaskP dr zlo dz nr nz z0 R (foldCell nz c) = true ↔ _
  rw [cylMaskP_iff hnz, foldCell_div hnz, foldCell_mod]
  constructor
  · rintro ⟨hi, hd⟩
    -- the periodic difference points to one of the neighbouring images
    obtain ⟨t, ht1, ht2, ht⟩ := wrapDiff_near hL hw
    refine ⟨ballAt dz nz z0 R ((m : ℤ) - 1 - t), (mem_balls5 _).mpr ⟨_, by omega, by omega, rfl⟩, ?_⟩
    refine (cylMask_iff h3 c).mpr ⟨hi, ?_⟩
    rw [zoff_padded, hm, sub_sub_cancel, ← ht]
    exact hd
  · rintro ⟨b, hb, hc⟩
    obtain ⟨k, -, -, rfl⟩ := (mem_balls5 b).mp hb
    obtain ⟨hi, hd⟩ := (cylMask_iff h3 c).mp hc
    rw [zoff_padded] at hd
    -- the periodic difference is the shortest representative
    exact ⟨hi, lt_of_le_of_lt (add_le_add_right (wrapDiff_min _ _ _ hL _ rfl) _) hd⟩

/-- the periodic images are whole periods apart along z, and a period exceeds `2R + h` -/
theorem balls5_separated (hdr : 0 < dr) (hdz : 0 < dz) (hnr : 0 < nr) (hnz : 0 < nz) (hR : 0 ≤ R)
    (hmax : ℚ) (hdr' : dr ≤ hmax) (hdz' : dz ≤ hmax) (hres : 2 * R + hmax ≤ dz * nz) :
    Separated (cylAxes dr (zlo - dz * nz) dz nr (3 * nz)) (balls5 dz nz z0 R) := by
  have h0 : 0 ≤ hmax := le_trans hdz.le hdz'
  apply separated_of_pairwise_distance _ _ _ _ hmax _ h0
  · intro b1 hb1 b2 hb2 hne
    obtain ⟨k1, _, _, rfl⟩ := (mem_balls5 b1).mp hb1
    obtain ⟨k2, _, _, rfl⟩ := (mem_balls5 b2).mp hb2
    -- different images are a whole number of periods apart, at least one
    have hk : (1 : ℚ) ≤ ((k1 - k2 : ℤ) : ℚ) ^ 2 := by
      rw [one_le_sq_iff_one_le_abs]
      exact_mod_cast Int.one_le_abs (sub_ne_zero.mpr fun h => hne (by rw [h]))
    show (R + R + hmax) ^ 2 ≤ cdist2 _ [0, z0 + (k1 : ℚ) * (dz * nz)] [0, z0 + (k2 : ℚ) * (dz * nz)]
    rw [cdist2_cyl, sub_self, zero_pow two_ne_zero, zero_add,
      show z0 + (k1 : ℚ) * (dz * nz) - (z0 + (k2 : ℚ) * (dz * nz)) = ((k1 - k2 : ℤ) : ℚ) * (dz * nz) by push_cast; ring, mul_pow]
    calc (R + R + hmax) ^ 2 ≤ (dz * nz) ^ 2 := pow_le_pow_left₀ (by linarith) (by linarith) 2
      _ ≤ _ := le_mul_of_one_le_left (sq_nonneg _) hk
  · intro b hb
    obtain ⟨k, _, _, rfl⟩ := (mem_balls5 b).mp hb
    exact cyl_wf hdr hdz hnr (by omega) rfl
  · intro b hb
    obtain ⟨k, _, _, rfl⟩ := (mem_balls5 b).mp hb
    exact hR
  · intro a ha
    simp only [cylAxes, List.mem_cons, List.not_mem_nil, or_false] at ha
    rcases ha with rfl | rfl
    · exact hdr'
    · exact hdz'

/-- **A periodic image that lies inside the padded image is a faithful copy of the droplet in the box**: folding is a
bijection from its cells onto the cells the droplet covers in the periodic box; it keeps the radial index and moves the
z index by whole periods (`1 + k − wraps`). -/
theorem image_transfer (hdz : 0 < dz) (hnr : 0 < nr) (hnz : 0 < nz) (hR : 0 ≤ R) (h2R : 2 * R < dz * nz) (k : ℤ)
    (hwhole : zlo - dz * nz + R ≤ z0 + (k : ℚ) * (dz * nz) ∧ z0 + (k : ℚ) * (dz * nz) + R ≤ zlo + 2 * (dz * nz)) :
    let S := (Finset.range (nr * (3 * nz))).filter
      (fun c => cylMask dr (zlo - dz * nz) dz nr (3 * nz) (z0 + (k : ℚ) * (dz * nz)) R c = true)
    let T := (Finset.range (nr * nz)).filter (fun c => cylMaskP dr zlo dz nr nz z0 R c = true)
    (∀ c ∈ S, foldCell nz c ∈ T ∧
      ((c % (3 * nz) : ℕ) : ℚ) = ((foldCell nz c % nz : ℕ) : ℚ) + (1 + (k : ℚ) - wrapsOf zlo dz nz z0 (foldCell nz c)) * nz) ∧
    Set.InjOn (foldCell nz) S ∧ Set.SurjOn (foldCell nz) S T := by
  intro S T
  have hL : 0 < dz * nz := mul_pos hdz (by exact_mod_cast hnz)
  have h3 : 0 < 3 * nz := by omega
  have hS : ∀ c, c ∈ S ↔ cylMask dr (zlo - dz * nz) dz nr (3 * nz) (z0 + (k : ℚ) * (dz * nz)) R c = true :=
    mem_filter_range fun c => cylMask_lt
  have hT : ∀ c, c ∈ T ↔ cylMaskP dr zlo dz nr nz z0 R c = true := mem_filter_range fun c => cylMaskP_lt
  have hmap : ∀ c ∈ S, foldCell nz c ∈ T ∧ ((c % (3 * nz) : ℕ) : ℚ) =
      ((foldCell nz c % nz : ℕ) : ℚ) + (1 + (k : ℚ) - wrapsOf zlo dz nz z0 (foldCell nz c)) * nz := by
    intro c hc
    rw [hS, cylMask_iff h3, zoff_padded] at hc
    -- the cell's offset from the image is shorter than `R < L/2`, so it IS the periodic difference
    have hwd := wrapDiff_eq_of_abs_lt hL _ rfl ((abs_lt_of_sq_add_sq_lt hR hc.2).trans (by linarith only [h2R]))
    constructor
    · rwa [hT, cylMaskP_iff hnz, foldCell_div hnz, foldCell_mod, hwd]
    · rw [wrapsOf_eq hL.ne' (by rw [foldCell_mod]; exact hwd), foldCell_mod,
        Int.cast_sub, Int.cast_sub, Int.cast_one, Int.cast_natCast]
      linear_combination (cast_mod_add_div (c % (3 * nz)) nz).symm
  refine ⟨hmap, ?_, ?_⟩
  · intro c hc c' hc' hff
    have hdiv : c / (3 * nz) = c' / (3 * nz) := by rw [← foldCell_div hnz c, ← foldCell_div hnz c', hff]
    have hmod : c % (3 * nz) = c' % (3 * nz) := by
      have h := (hmap c hc).2
      rw [hff, ← (hmap c' hc').2] at h
      exact_mod_cast h
    rw [← Nat.div_add_mod c (3 * nz), hdiv, hmod, Nat.div_add_mod]
  · intro ct hct
    rw [Finset.mem_coe, hT, cylMaskP_iff hnz] at hct
    have hj : ct % nz < nz := Nat.mod_lt ct hnz
    obtain ⟨k0, hk0⟩ := wrapDiff_congr (dz * nz) (zoff zlo dz z0 (ct % nz))
    -- the copy of the box that shows the cell is `1 + k − k0`; it is one of the three as the image lies inside the padded image
    obtain ⟨v1, v2⟩ := abs_lt.mp (abs_lt_of_sq_add_sq_lt hR hct.2)
    obtain ⟨c1, c2⟩ := centre_bounds hdz hj
    rw [hk0] at v1 v2
    unfold zoff at v1 v2
    have hm0 : -2 < k - k0 := int_lt_of_mul_lt hL (by push_cast; linarith only [v1, hwhole.1, c2])
    have hm2 : k - k0 < 2 := int_lt_of_mul_lt hL (by push_cast; linarith only [v2, hwhole.2, c1])
    obtain ⟨m, hm⟩ : ∃ m : ℕ, (m : ℤ) = 1 + k - k0 := ⟨_, Int.toNat_of_nonneg (by omega)⟩
    obtain ⟨e1, e2, e3⟩ := padded_cell hj (by omega : m ≤ 2) (ct / nz)
    refine ⟨ct / nz * (3 * nz) + (m * nz + ct % nz), ?_, ?_⟩
    · rwa [Finset.mem_coe, hS, cylMask_iff h3, zoff_padded, e1, e2, e3, hm,
        show 1 + k - k0 - 1 - k = -k0 by ring, Int.cast_neg, neg_mul, ← sub_eq_add_neg, ← hk0]
    · unfold foldCell
      rw [e1, e2]
      exact Nat.div_add_mod' ct nz

/-- unwrapped mean height (cell units) of the droplet's cells in the periodic box -/
def zetaP : ℚ :=
  (∑ c ∈ (Finset.range (nr * nz)).filter (fun c => cylMaskP dr zlo dz nr nz z0 R c = true),
      (((c % nz : ℕ) : ℚ) - wrapsOf zlo dz nz z0 c * nz))
    / (((Finset.range (nr * nz)).filter (fun c => cylMaskP dr zlo dz nr nz z0 R c = true)).card : ℚ) + 1 / 2

/-- weight (volume / π dr² dz) of the cells the droplet covers in the periodic box -/
def weightP : ℕ := (((List.range (nr * nz)).filter (cylMaskP dr zlo dz nr nz z0 R)).map fun c => 2 * (c / nz) + 1).sum

/-- the cluster of a periodic image that lies inside the padded image: exact weight, and its height is the unwrapped
mean height plus `k` periods -/
theorem image_cluster (hdz : 0 < dz) (hnr : 0 < nr) (hnz : 0 < nz) (hR : 0 ≤ R) (h2R : 2 * R < dz * nz) (k : ℤ)
    (hwhole : zlo - dz * nz + R ≤ z0 + (k : ℚ) * (dz * nz) ∧ z0 + (k : ℚ) * (dz * nz) + R ≤ zlo + 2 * (dz * nz))
    (hne : ∃ c, cylMaskP dr zlo dz nr nz z0 R c = true) (lbl : ℕ) :
    let cl : Cluster := ⟨lbl, cylCov dr (zlo - dz * nz) dz nr (3 * nz) (z0 + (k : ℚ) * (dz * nz)) R⟩
    cl.cells ≠ [] ∧ Cluster.weight (3 * nz) cl = weightP dr zlo dz nr nz z0 R ∧
      Cluster.zpos (3 * nz) cl - nz = zetaP dr zlo dz nr nz z0 R + (k : ℚ) * nz := by
  intro cl
  obtain ⟨hmap, hinj, hsurj⟩ := image_transfer dr zlo dz nr nz z0 R hdz hnr hnz hR h2R k hwhole
  set S := (Finset.range (nr * (3 * nz))).filter
    (fun c => cylMask dr (zlo - dz * nz) dz nr (3 * nz) (z0 + (k : ℚ) * (dz * nz)) R c = true) with hS
  set T := (Finset.range (nr * nz)).filter (fun c => cylMaskP dr zlo dz nr nz z0 R c = true) with hT
  have hTne : T.Nonempty := hne.imp fun c hc => (mem_filter_range (fun c => cylMaskP_lt) c).mpr hc
  have hcard : S.card = T.card := Finset.card_nbij (foldCell nz) (fun c hc => (hmap c hc).1) hinj hsurj
  have hTpos : (0 : ℚ) < T.card := by exact_mod_cast hTne.card_pos
  refine ⟨?_, ?_, ?_⟩
  · rw [← List.length_pos_iff]
    show 0 < (cylCov _ _ _ _ _ _ _).length
    rw [cylCov, list_filter_card, ← hS, hcard]
    exact hTne.card_pos
  · rw [cylCov_weight_eq, weightP, list_filter_sum]
    exact Finset.sum_nbij (foldCell nz) (fun c hc => (hmap c hc).1) hinj hsurj (fun c _ => by rw [foldCell_div hnz])
  · have hsum : ∑ c ∈ S, ((c % (3 * nz) : ℕ) : ℚ)
        = ∑ ct ∈ T, (((ct % nz : ℕ) : ℚ) + (1 + (k : ℚ) - wrapsOf zlo dz nz z0 ct) * nz) :=
      Finset.sum_nbij (foldCell nz) (fun c hc => (hmap c hc).1) hinj hsurj (fun c hc => (hmap c hc).2)
    -- every cell is moved by `1 + k` periods more than it was wrapped
    have hsplit : ∑ ct ∈ T, (((ct % nz : ℕ) : ℚ) + (1 + (k : ℚ) - wrapsOf zlo dz nz z0 ct) * nz)
        = ∑ ct ∈ T, (((ct % nz : ℕ) : ℚ) - wrapsOf zlo dz nz z0 ct * nz) + (T.card : ℚ) * ((1 + (k : ℚ)) * nz) := by
      rw [Finset.card_eq_sum_ones, Nat.cast_sum, Finset.sum_mul, ← Finset.sum_add_distrib]
      exact Finset.sum_congr rfl fun c _ => by push_cast; ring
    rw [cylCov_zpos_eq, zetaP, ← hS, ← hT, hcard, hsum, hsplit, add_div, mul_div_cancel_left₀ _ hTpos.ne']
    ring

/-- a periodic image whose cluster is kept by the box filter lies inside the padded image -/
theorem kept_is_whole (hdz : 0 < dz) (hR : 0 ≤ R) (h2R : 2 * R < dz * nz) (zk : ℚ) (lbl : ℕ)
    (hne : cylCov dr (zlo - dz * nz) dz nr (3 * nz) zk R ≠ [])
    (h0 : 0 ≤ Cluster.zpos (3 * nz) ⟨lbl, cylCov dr (zlo - dz * nz) dz nr (3 * nz) zk R⟩ - nz)
    (h1 : Cluster.zpos (3 * nz) ⟨lbl, cylCov dr (zlo - dz * nz) dz nr (3 * nz) zk R⟩ - nz ≤ nz) :
    zlo - dz * nz + R ≤ zk ∧ zk + R ≤ zlo + 2 * (dz * nz) := by
  -- the height lies between those of two cells, and both are within `R` of `zk`
  obtain ⟨c, hc, c', hc', hlo, hhi⟩ := zpos_between (3 * nz) ⟨lbl, cylCov dr (zlo - dz * nz) dz nr (3 * nz) zk R⟩ hne
  have a1 := (abs_lt.mp (cylMask_abs_z hR ((mem_cylCov c).mp hc))).1
  have a2 := (abs_lt.mp (cylMask_abs_z hR ((mem_cylCov c').mp hc'))).2
  unfold zoff at a1 a2
  have b1 := mul_le_mul_of_nonneg_right (hlo.trans (sub_le_iff_le_add.mp h1)) hdz.le
  have b2 := mul_le_mul_of_nonneg_right ((sub_nonneg.mp h0).trans hhi) hdz.le
  unfold zIdx at b1 b2
  exact ⟨by linarith only [a2, b2, h2R], by linarith only [a1, b1, h2R]⟩

/-- no periodic image triggers the 'spanning' test -/
theorem image_not_spanning (hdz : 0 < dz) (hR : 0 ≤ R) (h2R : 2 * R < dz * nz) (zk : ℚ) (lbl : ℕ) :
    Cluster.spans (3 * nz) (⟨lbl, cylCov dr (zlo - dz * nz) dz nr (3 * nz) zk R⟩ : Cluster) nz = false := by
  rw [← Bool.not_eq_true, spans_iff]
  rintro ⟨⟨c1, hc1, hz1⟩, ⟨c2, hc2, hz2⟩⟩
  -- a cell at height 0 and one at height ≥ nz are a period apart, the droplet is shorter
  have a1 := (abs_lt.mp (cylMask_abs_z hR ((mem_cylCov c1).mp hc1))).1
  have a2 := (abs_lt.mp (cylMask_abs_z hR ((mem_cylCov c2).mp hc2))).2
  rw [hz1] at a1
  unfold zoff at a1 a2
  have hq := mul_le_mul_of_nonneg_right (Nat.cast_le (α := ℚ).mpr hz2) hdz.le
  push_cast at a1
  linarith

section
variable {dr zlo dz nr nz z0 R}

/-- **The clusters of the padded image are the droplet's periodic images** (those that cover a cell of it). -/
theorem padded_clusters (hdr : 0 < dr) (hdz : 0 < dz) (hnr : 0 < nr) (hnz : 0 < nz) (hR : 0 ≤ R)
    (hmax : ℚ) (hdr' : dr ≤ hmax) (hdz' : dz ≤ hmax) (hres : 2 * R + hmax ≤ dz * nz) (hz0 : zlo ≤ z0 ∧ z0 < zlo + dz * nz) :
    let clusters := clustersOf (labelExec [nr, 3 * nz] (padded nz (cylMaskP dr zlo dz nr nz z0 R)))
    (∀ cl ∈ clusters, ∃ (k : ℤ) (lbl : ℕ), cl = ⟨lbl, cylCov dr (zlo - dz * nz) dz nr (3 * nz) (z0 + (k : ℚ) * (dz * nz)) R⟩ ∧
      cylCov dr (zlo - dz * nz) dz nr (3 * nz) (z0 + (k : ℚ) * (dz * nz)) R ≠ []) ∧
    (∀ k : ℤ, -2 ≤ k → k ≤ 2 → cylCov dr (zlo - dz * nz) dz nr (3 * nz) (z0 + (k : ℚ) * (dz * nz)) R ≠ [] →
      ∃ lbl, ⟨lbl, cylCov dr (zlo - dz * nz) dz nr (3 * nz) (z0 + (k : ℚ) * (dz * nz)) R⟩ ∈ clusters) := by
  rw [funext (padded_eq_emulsion dr zlo dz nr nz z0 R hdz hnz hz0)]
  obtain ⟨hA, hB⟩ := cyl_clusters_are_balls dr (zlo - dz * nz) dz nr (3 * nz) hdr hdz hnr (by omega) (balls5 dz nz z0 R)
    (fun b hb => by obtain ⟨k, _, _, rfl⟩ := (mem_balls5 b).mp hb; rfl)
    (balls5_separated dr zlo dz nr nz z0 R hdr hdz hnr hnz hR hmax hdr' hdz' hres)
  constructor
  · intro cl hcl
    obtain ⟨b, hb, hne, hcells⟩ := hA cl hcl
    obtain ⟨k, _, _, rfl⟩ := (mem_balls5 b).mp hb
    exact ⟨k, cl.label, congrArg (Cluster.mk cl.label) hcells, cylCov_ne_nil.mpr hne⟩
  · intro k hk1 hk2 hne
    obtain ⟨⟨lbl, cells⟩, hcl, rfl⟩ := hB (ballAt dz nz z0 R k) ((mem_balls5 _).mpr ⟨k, hk1, hk2, rfl⟩) (cylCov_ne_nil.mp hne)
    exact ⟨lbl, hcl⟩

/-- the unwrapped mean height lies within half a cell of the droplet's height: the image 0 lies inside the padded
image, where `cylCov_zpos` applies -/
theorem zetaP_half_cell (hdr : 0 < dr) (hdz : 0 < dz) (hnr : 0 < nr) (hnz : 0 < nz) (hR : 0 ≤ R) (h2R : 2 * R < dz * nz)
    (hz0 : zlo ≤ z0 ∧ z0 < zlo + dz * nz) (hne : ∃ c, cylMaskP dr zlo dz nr nz z0 R c = true) :
    |zlo + zetaP dr zlo dz nr nz z0 R * dz - z0| < dz / 2 := by
  have hw : zlo - dz * nz + R ≤ z0 + ((0 : ℤ) : ℚ) * (dz * nz) ∧ z0 + ((0 : ℤ) : ℚ) * (dz * nz) + R ≤ zlo + 2 * (dz * nz) := by
    rw [Int.cast_zero, zero_mul, add_zero]
    exact ⟨by linarith, by linarith⟩
  obtain ⟨hne0, -, hz⟩ := image_cluster dr zlo dz nr nz z0 R hdz hnr hnz hR h2R 0 hw hne 0
  have h := cylCov_zpos dr (zlo - dz * nz) dz nr (3 * nz) (z0 + ((0 : ℤ) : ℚ) * (dz * nz)) R hdr hdz hnr (by omega) hR 0
    ⟨hw.1, by push_cast; linarith [hw.2]⟩ (cylCov_ne_nil.mp hne0)
  rw [sub_eq_iff_eq_add.mp hz] at h
  convert h using 2
  push_cast
  ring

end

/-- **C01 on a cylindrical grid with PERIODIC z, for the model of `_locate_droplets_in_mask_cylindrical`.**
A droplet centred on the symmetry axis anywhere in the periodic box (also straddling the periodic boundary), shorter than
the box by two cells (`2R + 2h ≤ L`, `h` a bound on the cell sizes) and covering at least one cell centre: the padded
analysis is not abandoned, it hands on at least one candidate, and EVERY candidate handed to the overlap filter has
exactly the weight of the cells the droplet covers in the periodic box, lies in the box `[0, nz)` (cell units) and within
HALF A CELL of the droplet's height modulo the period.  (Two candidates arise only when the located height falls exactly
on the boundary; they coincide after wrapping — repair 45d5185 — and the overlap filter keeps one: C10.) -/
theorem C01_cylinder_periodic_model (hdr : 0 < dr) (hdz : 0 < dz) (hnr : 0 < nr) (hnz : 0 < nz) (hR : 0 ≤ R)
    (hmax : ℚ) (hdr' : dr ≤ hmax) (hdz' : dz ≤ hmax) (hres : 2 * R + 2 * hmax ≤ dz * nz)
    (hz0 : zlo ≤ z0 ∧ z0 < zlo + dz * nz) (hne : ∃ c, cylMaskP dr zlo dz nr nz z0 R c = true) :
    ∃ cs, candidates nr nz true (cylMaskP dr zlo dz nr nz z0 R) = some cs ∧ cs ≠ [] ∧
      ∀ p ∈ cs, p.2 = weightP dr zlo dz nr nz z0 R ∧ 0 ≤ p.1 ∧ p.1 < nz ∧
        ∃ m : ℤ, |zlo + p.1 * dz - z0 - (m : ℚ) * (dz * nz)| < dz / 2 := by
  -- of `hres` only `2R + h ≤ L` is used
  have hres' : 2 * R + hmax ≤ dz * nz := by linarith only [hres, hdz, hdz']
  have h2R : 2 * R < dz * nz := by linarith only [hres', hdz, hdz']
  obtain ⟨hA, hB⟩ := padded_clusters hdr hdz hnr hnz hR hmax hdr' hdz' hres' hz0
  -- every cluster is an image of the droplet: it touches the axis and does not span, so all are handed on
  have hsingle := single_eq_map nr (3 * nz) nz (padded nz (cylMaskP dr zlo dz nr nz z0 R))
    (fun cl hcl => by
      obtain ⟨k, lbl, rfl, hnn⟩ := hA cl hcl
      exact cylCov_onAxis hdr hnr (by omega) lbl (cylCov_ne_nil.mp hnn))
    (fun cl hcl => by
      obtain ⟨k, lbl, rfl, -⟩ := hA cl hcl
      exact image_not_spanning dr zlo dz nr nz R hdz hR h2R _ lbl)
  obtain ⟨out, hout, hmem⟩ := mem_candidates_periodic hsingle
  have hζ := zetaP_half_cell hdr hdz hnr hnz hR h2R hz0 hne
  have himg := fun k hwk => image_cluster dr zlo dz nr nz z0 R hdz hnr hnz hR h2R k hwk hne
  refine ⟨out, hout, ?_, ?_⟩
  · -- at least one candidate: the image 0, or the neighbour that carries its height into the box
    obtain ⟨y1, y2⟩ := abs_lt.mp hζ
    obtain ⟨k, hk1, hk2, hq0, hq1⟩ := exists_shift_into (L := dz * nz) (y := zetaP dr zlo dz nr nz z0 R * dz)
      (by linarith only [y1, hz0.1, hres', hdz', hR, hdz]) (by linarith only [y2, hz0.2, hres', hdz', hR, hdz])
    have hwk : zlo - dz * nz + R ≤ z0 + (k : ℚ) * (dz * nz) ∧ z0 + (k : ℚ) * (dz * nz) + R ≤ zlo + 2 * (dz * nz) :=
      ⟨by linarith only [y2, hq0, hres', hdz', hR, hdz], by linarith only [y1, hq1, hres', hdz', hR, hdz]⟩
    obtain ⟨lbl, hcl⟩ := hB k (by omega) (by omega) (himg k hwk 0).1
    refine List.ne_nil_of_mem ((hmem _).mpr ⟨_, List.mem_map_of_mem hcl, ?_, rfl⟩)
    rw [(himg k hwk lbl).2.2]
    exact ⟨le_of_mul_le_mul_right (by linarith only [hq0]) hdz, le_of_mul_le_mul_right (by linarith only [hq1]) hdz⟩
  · intro p hp
    obtain ⟨q, hq, ⟨hk0, hk1⟩, rfl⟩ := (hmem p).mp hp
    obtain ⟨cl, hcl, rfl⟩ := List.mem_map.mp hq
    obtain ⟨k, lbl, rfl, hnn⟩ := hA cl hcl
    -- the image is kept, so it lies inside the padded image and is a copy of the droplet, `k` periods up
    obtain ⟨-, hwt, hzk⟩ := himg k (kept_is_whole dr zlo dz nr nz R hdz hR h2R _ lbl hnn hk0 hk1) lbl
    simp only at hk0 hk1 ⊢
    rw [hzk] at hk0 hk1 ⊢
    refine ⟨hwt, ?_⟩
    split_ifs with he
    · refine ⟨le_rfl, by exact_mod_cast hnz, k - 1, ?_⟩
      convert hζ using 2
      push_cast
      linear_combination (-dz) * he
    · refine ⟨hk0, lt_of_le_of_ne hk1 he, k, ?_⟩
      convert hζ using 2
      ring

end cylper

/-- non-vacuity: 4 × 8 cells of size 1, periodic z, droplet of radius 2.2 on the axis at height 0.2, i.e. across the
periodic boundary (`2R + 2h = 6.4 ≤ 8`): it covers 7 cells on both sides of the boundary, and the executed model hands on
one candidate at 3/14 ≈ 0.21 cells (within half a cell of 0.2) with the weight 13 of those cells -/
example : cylMaskP 1 0 1 4 8 (1/5) (11/5) 15 = true := by decide +kernel
example : Cyl.candidates 4 8 true (cylMaskP 1 0 1 4 8 (1/5) (11/5)) = some [(3/14, 13)] ∧
    weightP 1 0 1 4 8 (1/5) (11/5) = 13 := by decide +kernel

end DV.C01
