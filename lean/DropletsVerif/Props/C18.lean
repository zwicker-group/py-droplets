/-
  C18 — Detection depends on the image only through the documented threshold.
  Theorems about Model/Thresh.lean (exact rational model of the threshold rules, of the Otsu
  optimisation and of the `remove_small` loop).
-/
import DropletsVerif.Model.Thresh
import Mathlib.Tactic

namespace DV.C18
open DV.Thresh

/-- the change of intensity scale `x ↦ a x + b` -/
def aff (a b : Rat) (x : Rat) : Rat := a * x + b

theorem aff_strictMono {a b : Rat} (ha : 0 < a) : StrictMono (aff a b) :=
  fun x y h => by unfold aff; gcongr

/-! `minL` and `maxL` of a non-empty list are the library's `List.min?` and `List.max?` -/

theorem minL_spec (xs : List Rat) (hne : xs ≠ []) : minL xs ∈ xs ∧ ∀ y ∈ xs, minL xs ≤ y := by
  cases xs with
  | nil => exact absurd rfl hne
  | cons x xs => exact List.min?_eq_some_iff.mp List.min?_cons'

theorem maxL_spec (xs : List Rat) (hne : xs ≠ []) : maxL xs ∈ xs ∧ ∀ y ∈ xs, y ≤ maxL xs := by
  cases xs with
  | nil => exact absurd rfl hne
  | cons x xs => exact List.max?_eq_some_iff.mp List.max?_cons'

theorem minL_map {f : Rat → Rat} (hf : Monotone f) (xs : List Rat) (hne : xs ≠ []) :
    minL (xs.map f) = f (minL xs) := by
  have hm := minL_spec (xs.map f) (by simpa using hne)
  obtain ⟨y, hy, he⟩ := List.mem_map.mp hm.1
  exact le_antisymm (hm.2 _ (List.mem_map_of_mem (minL_spec xs hne).1)) (he ▸ hf ((minL_spec xs hne).2 y hy))

theorem maxL_map {f : Rat → Rat} (hf : Monotone f) (xs : List Rat) (hne : xs ≠ []) :
    maxL (xs.map f) = f (maxL xs) := by
  have hm := maxL_spec (xs.map f) (by simpa using hne)
  obtain ⟨y, hy, he⟩ := List.mem_map.mp hm.1
  exact le_antisymm (he ▸ hf ((maxL_spec xs hne).2 y hy)) (hm.2 _ (List.mem_map_of_mem (maxL_spec xs hne).1))

theorem minL_aff {a b : Rat} (ha : 0 < a) (xs : List Rat) (hne : xs ≠ []) :
    minL (xs.map (aff a b)) = aff a b (minL xs) :=
  minL_map (aff_strictMono ha).monotone xs hne

theorem maxL_aff {a b : Rat} (ha : 0 < a) (xs : List Rat) (hne : xs ≠ []) :
    maxL (xs.map (aff a b)) = aff a b (maxL xs) :=
  maxL_map (aff_strictMono ha).monotone xs hne

/-- **'extrema'/'auto' commute with positive affine maps** -/
theorem extrema_affine {a b : Rat} (ha : 0 < a) (xs : List Rat) (hne : xs ≠ []) :
    extrema (xs.map (aff a b)) = aff a b (extrema xs) := by
  unfold extrema
  rw [minL_aff ha xs hne, maxL_aff ha xs hne]
  unfold aff; ring

theorem sum_map_aff (a b : Rat) (xs : List Rat) :
    (xs.map (aff a b)).sum = a * xs.sum + b * (xs.length : Rat) := by
  induction xs with
  | nil => simp
  | cons x xs ih => simp only [List.map_cons, List.sum_cons, List.length_cons, ih, aff]; push_cast; ring

theorem mean_affine (a b : Rat) (xs : List Rat) (hne : xs ≠ []) :
    mean (xs.map (aff a b)) = aff a b (mean xs) := by
  have hlen : (xs.length : Rat) ≠ 0 := Nat.cast_ne_zero.mpr (List.length_pos_iff.mpr hne).ne'
  unfold mean
  rw [sum_map_aff, List.length_map, add_div, mul_div_assoc, mul_div_cancel_right₀ _ hlen]
  rfl

/-- the binary image is unchanged when image and threshold are mapped by the same positive
affine map (strict comparison `data > threshold`) -/
theorem binarize_affine {a b : Rat} (ha : 0 < a) (t : Rat) (xs : List Rat) :
    binarize (aff a b t) (xs.map (aff a b)) = binarize t xs := by
  unfold binarize
  rw [List.map_map]
  exact List.map_congr_left fun x _ => decide_eq_decide.mpr (aff_strictMono ha).lt_iff_lt

/-- **Positive affine changes of the intensities leave the binary image — hence everything
located in it — unchanged**, for the rules 'extrema'/'auto' and 'mean' and for a numeric
threshold mapped the same way. -/
theorem threshold_affine {a b : Rat} (ha : 0 < a) (xs : List Rat) (hne : xs ≠ []) (t : Rat) :
    binarize (thresholdOf .extrema (xs.map (aff a b))) (xs.map (aff a b)) = binarize (thresholdOf .extrema xs) xs ∧
    binarize (thresholdOf .mean (xs.map (aff a b))) (xs.map (aff a b)) = binarize (thresholdOf .mean xs) xs ∧
    binarize (thresholdOf (.value (aff a b t)) (xs.map (aff a b))) (xs.map (aff a b)) =
      binarize (thresholdOf (.value t) xs) xs := by
  refine ⟨?_, ?_, ?_⟩
  · simp only [thresholdOf]; rw [extrema_affine ha xs hne, binarize_affine ha]
  · simp only [thresholdOf]; rw [mean_affine a b xs hne, binarize_affine ha]
  · simp only [thresholdOf]; rw [binarize_affine ha]

/-- the Otsu histogram is invariant: a value falls into the same one of the 256 bins -/
theorem binIdx_affine {a b : Rat} (ha : 0 < a) (lo hi x : Rat) (h : lo < hi) :
    binIdx (aff a b lo) (aff a b hi) (aff a b x) = binIdx lo hi x := by
  unfold binIdx aff
  rw [show a * x + b - (a * lo + b) = a * (x - lo) by ring, show a * hi + b - (a * lo + b) = a * (hi - lo) by ring,
    mul_div_mul_left _ _ ha.ne']

theorem center_affine (a b lo hi : Rat) (k : Nat) :
    center (aff a b lo) (aff a b hi) k = aff a b (center lo hi k) := by
  unfold center aff nbins; ring

/-- the loop of `np.argmax` as an invariant over the whole list `l`: the positions before `i` have been seen,
`bv` at position `best` is the largest value among them and the first such, `vs` is what remains -/
theorem argmaxNaN_go_spec (l vs : List (Option Rat)) : ∀ (best : Nat) (bv : Rat) (i : Nat), l.drop i = vs →
    l[best]? = some (some bv) → (∀ (j : Nat) (w : Rat), j < i → l[j]? = some (some w) → w ≤ bv) →
    (∀ (j : Nat) (w : Rat), j < best → l[j]? = some (some w) → w < bv) →
    ∃ v, l[argmaxNaN.go best bv i vs]? = some (some v) ∧ (∀ (j : Nat) (w : Rat), l[j]? = some (some w) → w ≤ v) ∧
      ∀ (j : Nat) (w : Rat), j < argmaxNaN.go best bv i vs → l[j]? = some (some w) → w < v := by
  induction vs with
  | nil =>
    intro best bv i hd hb hmax hfirst
    exact ⟨bv, hb, fun j w hj => hmax j w
      ((List.getElem?_eq_some_iff.mp hj).1.trans_le (List.drop_eq_nil_iff.mp hd)) hj, hfirst⟩
  | cons o rest ih =>
    intro best bv i hd hb hmax hfirst
    have hi : l[i]? = some o := by rw [← List.head?_drop, hd]; rfl
    have hrest : l.drop (i + 1) = rest := by rw [← List.drop_drop, hd]; rfl
    -- a bound for the positions before `i` and for position `i` is one for those before `i + 1`
    have hext : ∀ bv', bv ≤ bv' → (∀ w, o = some w → w ≤ bv') →
        ∀ (j : Nat) (w : Rat), j < i + 1 → l[j]? = some (some w) → w ≤ bv' := by
      intro bv' h1 h2 j w hj hw
      rcases Nat.lt_succ_iff_lt_or_eq.mp hj with hj | rfl
      · exact (hmax j w hj hw).trans h1
      · exact h2 w (Option.some.inj (hi.symm.trans hw))
    cases o with
    | none => exact ih best bv (i + 1) hrest hb (hext bv le_rfl fun w h => nomatch h) hfirst
    | some v0 =>
      simp only [argmaxNaN.go]
      split_ifs with hlt
      · exact ih i v0 (i + 1) hrest hi (hext v0 hlt.le fun w h => (Option.some.inj h).ge)
          fun j w hj hw => (hmax j w hj hw).trans_lt hlt
      · exact ih best bv (i + 1) hrest hb (hext bv le_rfl fun w h => Option.some.inj h ▸ not_lt.mp hlt) hfirst

theorem argmaxNaN_first_max (vs : List (Option Rat)) (hne : vs ≠ []) (hall : ∀ o ∈ vs, o ≠ none) :
    ∃ v, vs[argmaxNaN vs]? = some (some v) ∧ (∀ (j : Nat) (w : Rat), vs[j]? = some (some w) → w ≤ v) ∧
      ∀ (j : Nat) (w : Rat), j < argmaxNaN vs → vs[j]? = some (some w) → w < v := by
  have hfind : vs.findIdx? (· == none) = none :=
    List.findIdx?_eq_none_iff.mpr fun o ho => by simpa [Option.isSome_iff_ne_none] using hall o ho
  cases vs with
  | nil => exact absurd rfl hne
  | cons o rest =>
    cases o with
    | none => exact absurd rfl (hall none List.mem_cons_self)
    | some v0 =>
      unfold argmaxNaN
      rw [hfind]
      exact argmaxNaN_go_spec (some v0 :: rest) rest 0 v0 1 rfl rfl (fun j w hj hw => by
        rw [Nat.lt_one_iff.mp hj] at hw
        exact (Option.some.inj (Option.some.inj hw)).ge) fun j w hj => absurd hj j.not_lt_zero

/-- **The selection rule of `threshold_otsu` is an argmax**, stated for ANY list without NaN: no
entry exceeds the one at `argmaxNaN vs`.  `otsuIdx` is `argmaxNaN (variances …)` (`variances_spec`); the
instance, with `hall` for "no split has an empty class", is not stated. -/
theorem otsu_is_argmax (vs : List (Option Rat)) (hne : vs ≠ []) (hall : ∀ o ∈ vs, o ≠ none) :
    ∃ v, vs[argmaxNaN vs]? = some (some v) ∧ ∀ (j : Nat) (w : Rat), vs[j]? = some (some w) → w ≤ v :=
  let ⟨v, h1, h2, _⟩ := argmaxNaN_first_max vs hne hall
  ⟨v, h1, h2⟩

/-- the NaN rule of `np.argmax`, for any list: the first `none` wins (in `otsuIdx`, the first split
with an empty class) -/
theorem otsu_nan_rule (vs : List (Option Rat)) (i : Nat) (h : vs.findIdx? (· == none) = some i) :
    argmaxNaN vs = i := by
  unfold argmaxNaN; rw [h]

/-- prefix sums: left weight and left first moment of the bins `0 .. n-1` -/
def prefixSums (cs : List Nat) (ctr : Nat → Rat) (n : Nat) : Rat × Rat :=
  (List.range n).foldl (fun acc j => (acc.1 + (cs.getD j 0 : Rat), acc.2 + (cs.getD j 0 : Rat) * ctr j)) (0, 0)

theorem prefixSums_succ (cs : List Nat) (ctr : Nat → Rat) (n : Nat) :
    prefixSums cs ctr (n + 1) =
      ((prefixSums cs ctr n).1 + (cs.getD n 0 : Rat), (prefixSums cs ctr n).2 + (cs.getD n 0 : Rat) * ctr n) := by
  simp [prefixSums, List.range_succ, List.foldl_append]

theorem leftSums_eq (cs : List Nat) (ctr : Nat → Rat) (i : Nat) : leftSums cs ctr i = prefixSums cs ctr (i + 1) := rfl

/-- the state of the one-pass loop after `n` bins: the prefix sums, and the variances of the splits so far, last first -/
theorem variances_fold (cs : List Nat) (ctr : Nat → Rat) (W S : Rat) (n : Nat) :
    (List.range n).foldl
      (fun (st : Rat × Rat × List (Option Rat)) i =>
        let w1 := st.1 + (cs.getD i 0 : Rat)
        let s1 := st.2.1 + (cs.getD i 0 : Rat) * ctr i
        (w1, s1, varianceOf W S w1 s1 :: st.2.2)) (0, 0, [])
    = ((prefixSums cs ctr n).1, (prefixSums cs ctr n).2,
        ((List.range n).map fun i => varianceOf W S (leftSums cs ctr i).1 (leftSums cs ctr i).2).reverse) := by
  induction n with
  | zero => rfl
  | succ n ih =>
    rw [List.range_succ, List.foldl_append, ih, List.map_append, List.reverse_append]
    simp only [List.foldl_cons, List.foldl_nil, List.map_cons, List.map_nil, List.reverse_singleton,
      List.singleton_append, leftSums_eq, prefixSums_succ]

/-- **the list of variances computed in one pass is, split by split, the between-class variance
of the split after bin `i`** -/
theorem variances_spec (cs : List Nat) (ctr : Nat → Rat) :
    variances cs ctr = (List.range (nbins - 1)).map fun i =>
      varianceOf (leftSums cs ctr (nbins - 1)).1 (leftSums cs ctr (nbins - 1)).2 (leftSums cs ctr i).1 (leftSums cs ctr i).2 := by
  rw [variances, variances_fold, List.reverse_reverse]

theorem histRange_nonconst (xs : List Rat) (hc : minL xs ≠ maxL xs) : histRange xs = (minL xs, maxL xs) := by
  simp [histRange, hc]

theorem histRange_affine {a b : Rat} (ha : 0 < a) (xs : List Rat) (hne : xs ≠ []) (hc : minL xs ≠ maxL xs) :
    histRange (xs.map (aff a b)) = (aff a b (minL xs), aff a b (maxL xs)) := by
  have : minL (xs.map (aff a b)) ≠ maxL (xs.map (aff a b)) := by
    rw [minL_aff ha xs hne, maxL_aff ha xs hne]
    exact fun h => hc ((aff_strictMono ha).injective h)
  rw [histRange_nonconst _ this, minL_aff ha xs hne, maxL_aff ha xs hne]

theorem counts_affine {a b : Rat} (ha : 0 < a) (xs : List Rat) (hne : xs ≠ []) (hc : minL xs ≠ maxL xs) :
    counts (xs.map (aff a b)) = counts xs := by
  have hlt : minL xs < maxL xs := lt_of_le_of_ne ((minL_spec xs hne).2 _ (maxL_spec xs hne).1) hc
  unfold counts
  rw [histRange_affine ha xs hne hc, histRange_nonconst xs hc]
  simp only [List.map_map]
  have : (binIdx (aff a b (minL xs)) (aff a b (maxL xs)) ∘ aff a b) = binIdx (minL xs) (maxL xs) := by
    funext x; exact binIdx_affine ha _ _ x hlt
  rw [this]

theorem prefixSums_affine (a b : Rat) (cs : List Nat) (ctr : Nat → Rat) (n : Nat) :
    prefixSums cs (fun j => aff a b (ctr j)) n =
      ((prefixSums cs ctr n).1, a * (prefixSums cs ctr n).2 + b * (prefixSums cs ctr n).1) := by
  induction n with
  | zero => simp [prefixSums]
  | succ n ih =>
    rw [prefixSums_succ, prefixSums_succ, ih]
    simp only [aff, Prod.mk.injEq, true_and]
    ring

/-- the between-class variance of every split is multiplied by `a²` -/
theorem varianceOf_affine (a b W S w1 s1 : Rat) :
    varianceOf W (a * S + b * W) w1 (a * s1 + b * w1) = (varianceOf W S w1 s1).map fun v => a * a * v := by
  unfold varianceOf
  simp only
  split_ifs with h
  · rfl
  · rw [not_or] at h
    obtain ⟨h1, h2⟩ := h
    simp only [Option.map_some, Option.some.injEq]
    field_simp
    ring

theorem variances_affine (a b : Rat) (cs : List Nat) (ctr : Nat → Rat) :
    variances cs (fun j => aff a b (ctr j)) = (variances cs ctr).map (Option.map fun v => a * a * v) := by
  rw [variances_spec, variances_spec, List.map_map]
  apply List.map_congr_left
  intro i _
  simp only [Function.comp, leftSums_eq, prefixSums_affine]
  exact varianceOf_affine a b _ _ _ _

theorem argmaxNaN_go_scale (c : Rat) (hc : 0 < c) (vs : List (Option Rat)) (best : Nat) (bv : Rat) (i : Nat) :
    argmaxNaN.go best (c * bv) i (vs.map (Option.map fun v => c * v)) = argmaxNaN.go best bv i vs := by
  induction vs generalizing best bv i with
  | nil => rfl
  | cons o rest ih =>
    cases o with
    | none => exact ih _ _ _
    | some v =>
      simp only [List.map_cons, Option.map_some, argmaxNaN.go, Rat.mul_lt_mul_left hc]
      split_ifs <;> exact ih _ _ _

theorem argmaxNaN_scale (c : Rat) (hc : 0 < c) (vs : List (Option Rat)) :
    argmaxNaN (vs.map (Option.map fun v => c * v)) = argmaxNaN vs := by
  unfold argmaxNaN
  have hf : (vs.map (Option.map fun v => c * v)).findIdx? (· == none) = vs.findIdx? (· == none) := by
    rw [List.findIdx?_map]
    congr 1
    funext o
    cases o <;> rfl
  rw [hf]
  cases hfi : vs.findIdx? (· == none) with
  | some i => rfl
  | none =>
    simp only
    cases vs with
    | nil => rfl
    | cons o rest =>
      cases o with
      | none => rfl
      | some v => simp only [List.map_cons, Option.map_some]; exact argmaxNaN_go_scale c hc rest 0 v 1

/-- **Otsu's threshold commutes with positive affine maps of the intensities** (non-constant
data): the same bin is selected and its centre is the image of the old centre. -/
theorem otsu_affine {a b : Rat} (ha : 0 < a) (xs : List Rat) (hne : xs ≠ []) (hc : minL xs ≠ maxL xs) :
    otsu (xs.map (aff a b)) = aff a b (otsu xs) := by
  have hidx : otsuIdx (xs.map (aff a b)) = otsuIdx xs := by
    unfold otsuIdx
    rw [histRange_affine ha xs hne hc, histRange_nonconst xs hc, counts_affine ha xs hne hc]
    simp only
    have : center (aff a b (minL xs)) (aff a b (maxL xs)) = fun j => aff a b (center (minL xs) (maxL xs) j) := by
      funext j; exact center_affine a b _ _ j
    rw [this, variances_affine]
    exact argmaxNaN_scale (a * a) (mul_pos ha ha) _
  unfold otsu
  rw [histRange_affine ha xs hne hc, histRange_nonconst xs hc]
  simp only
  rw [hidx, center_affine]

theorem binIdx_mid (x : Rat) : binIdx (x - 1 / 2) (x + 1 / 2) x = 128 := by
  unfold binIdx nbins
  have : (x - (x - 1 / 2)) / (x + 1 / 2 - (x - 1 / 2)) * ((256 : Nat) : Rat) = ((128 : Nat) : Rat) := by
    push_cast; ring
  rw [this]
  have hf : Rat.floor ((128 : Nat) : Rat) = 128 := by
    -- the model calls `Rat.floor`, Mathlib's lemmas speak of `⌊·⌋`: the same by the `FloorRing ℚ` instance, not syntactically
    show ⌊((128 : Nat) : Rat)⌋ = 128
    exact_mod_cast Int.floor_natCast (R := Rat) 128
  rw [hf]; rfl

theorem const_mem (xs : List Rat) (hc : minL xs = maxL xs) (x : Rat) (h : x ∈ xs) : x = minL xs :=
  have hne := List.ne_nil_of_mem h
  le_antisymm (hc ▸ (maxL_spec xs hne).2 x h) ((minL_spec xs hne).2 x h)

theorem counts_getD (xs : List Rat) (b : Nat) (hb : b < nbins) :
    (counts xs).getD b 0 = (xs.map (binIdx (histRange xs).1 (histRange xs).2)).count b := by
  simp [counts, List.getD, hb]

theorem argmaxNaN_variances_zero (cs : List Nat) (ctr : Nat → Rat) (h : cs.getD 0 0 = 0) :
    argmaxNaN (variances cs ctr) = 0 := by
  apply otsu_nan_rule
  have h0 : (leftSums cs ctr 0).1 = 0 := by rw [leftSums_eq, prefixSums_succ, h]; simp [prefixSums]
  rw [variances_spec, show nbins - 1 = 254 + 1 from rfl, List.range_succ_eq_map, List.map_cons, List.findIdx?_cons]
  -- the first split has left weight 0: the list starts with `varianceOf _ _ 0 _ = none`, and `np.argmax` stops there
  simp [varianceOf, h0]

/-- **constant data**: every value falls into bin 128, every split below it has an empty class,
`np.argmax` returns the first of them, and the threshold is the centre of bin 0 of the widened
range `[x-½, x+½]` — strictly below the data -/
theorem otsu_constant (xs : List Rat) (hc : minL xs = maxL xs) :
    otsu xs = minL xs - 1 / 2 + 1 / 512 := by
  have hr : histRange xs = (minL xs - 1 / 2, minL xs + 1 / 2) := by simp [histRange, hc]
  have hcount : (counts xs).getD 0 0 = 0 := by
    rw [counts_getD xs 0 (Nat.succ_pos _), hr, List.count_eq_zero]
    intro hm
    obtain ⟨x, hx, he⟩ := List.mem_map.mp hm
    rw [const_mem xs hc x hx, binIdx_mid] at he
    cases he
  unfold otsu otsuIdx
  rw [hr]
  simp only
  rw [argmaxNaN_variances_zero _ _ hcount]
  unfold center nbins
  push_cast
  ring

theorem otsu_mask_const (xs : List Rat) (hc : minL xs = maxL xs) :
    binarize (thresholdOf .otsu xs) xs = xs.map fun _ => true := by
  refine List.map_congr_left fun x hx => decide_eq_true ?_
  show otsu xs < x
  rw [otsu_constant xs hc, const_mem xs hc x hx]
  linarith

/-- **Positive affine changes of the intensities leave the binary image of the rule 'otsu'
unchanged**, for all non-empty data. -/
theorem otsu_mask_affine_all {a b : Rat} (ha : 0 < a) (xs : List Rat) (hne : xs ≠ []) :
    binarize (thresholdOf .otsu (xs.map (aff a b))) (xs.map (aff a b)) = binarize (thresholdOf .otsu xs) xs := by
  by_cases hc : minL xs = maxL xs
  · -- constant before and after the map: every cell is marked
    rw [otsu_mask_const _ (by rw [minL_aff ha xs hne, maxL_aff ha xs hne, hc]), otsu_mask_const _ hc, List.map_map]
    rfl
  · simp only [thresholdOf]
    rw [otsu_affine ha xs hne hc, binarize_affine ha]

/-- the backward loop on `pre ++ suf`, with `pre` still to be visited and only survivors in `suf`
(erasing at a position moves nothing before it) -/
theorem removeSmall_go {β : Type} (radius : β → Rat) (minR : Rat) (pre suf : List β)
    (hsuf : ∀ d ∈ suf, minR < radius d) :
    (List.range pre.length).reverse.foldl
      (fun acc i => match acc[i]? with
        | some d => if radius d ≤ minR then acc.eraseIdx i else acc
        | none => acc) (pre ++ suf) = pre.filter (fun d => decide (minR < radius d)) ++ suf := by
  induction pre using List.reverseRecOn generalizing suf with
  | nil => rfl
  | append_singleton pre d ih =>
    have hget : (pre ++ d :: suf)[pre.length]? = some d := by simp
    rw [List.length_append, List.length_singleton, List.range_succ, List.reverse_append, List.reverse_singleton,
      List.singleton_append, List.foldl_cons, List.append_assoc, List.singleton_append, hget, List.filter_append]
    simp only
    split_ifs with hd
    · rw [List.eraseIdx_append_of_length_le (le_refl _), Nat.sub_self, List.eraseIdx_cons_zero, ih suf hsuf,
        List.filter_cons_of_neg (by simpa using hd), List.filter_nil, List.append_nil]
    · rw [ih _ (List.forall_mem_cons.mpr ⟨not_le.mp hd, hsuf⟩), List.filter_cons_of_pos (by simpa using hd),
        List.filter_nil, List.append_assoc, List.singleton_append]

/-- **`remove_small` is the filter `radius > min_radius`**: every survivor is larger, nothing
larger is dropped, the order is kept (for every list and every minimal radius). -/
theorem removeSmall_eq_filter {β : Type} (radius : β → Rat) (minR : Rat) (xs : List β) :
    removeSmall radius minR xs = xs.filter (fun d => decide (minR < radius d)) := by
  have := removeSmall_go radius minR xs [] (by simp)
  rwa [List.append_nil, List.append_nil] at this

/-- non-vacuity: the model on concrete data (`extrema` and `mean` of a two-level image with one
value in between; `remove_small` drops a radius equal to the minimum) -/
example : extrema [0, 1, 1/2] = 1/2 ∧ mean [0, 1, 1/2] = 1/2 ∧
    removeSmall (fun (r : Rat) => r) (1/2) [1/4, 1, 1/2, 3] = [1, 3] := by decide +kernel

end DV.C18
